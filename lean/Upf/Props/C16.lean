import Upf.Model.P4Valid
import Upf.Proofs.Up4Start
import Upf.Proofs.Up4Build
/-!
# C16 — every P4Runtime write is valid for the shipped pipeline

`Up4.validEntry Gen.P4Info.info e` says what the property says: the table exists, every match field belongs to it with
the declared kind and a value inside the declared width, the action is one of the table's (non default-only) action
references and carries exactly its declared parameters with values inside their widths, and a table with ternary, range
or optional fields gets a non-zero priority. `Gen.P4Info` is regenerated from conf/p4/bin/p4info.txt and `Gen.P4Constants`
from the compiled package internal/p4constants on every run; the builders are the model of p4rt_translator.go
(`Upf/Model/Up4.lean`), which looks every field and parameter up BY NAME in that P4Info as the Go code does.

The theorems hold for ALL inputs inside the widths of the Go types the values come from (uint8 / uint16 / uint32) and the
configuration bounds the property names (slice ≤ 15, TC ≤ 3, QFI < 64).
-/
namespace C16
open Up4 P4 Agent

/-- validity in three parts: the pipeline objects the entry names, what depends only on WHICH fields and parameters are written
(`hshape`: closed, so `rfl` per builder), and the widths of the values written (`hwidth`: needs the bounds on the builder's inputs) -/
theorem validEntry_of {e : Entry} (t : P4.Table) (a : P4.Action) (ht : Up4.info.tables.find? (·.id == e.table) = some t)
    (ha : Up4.info.actions.find? (·.id == e.action) = some a)
    (hshape : (nodupNat (e.ms.map (·.fid)) && t.actions.contains e.action && sameSet (e.ps.map (·.1)) (a.params.map (·.id)) &&
       nodupNat (e.ps.map (·.1)) && (!needsPriority t || e.prio != 0)) = true)
    (hwidth : (e.ms.all (fmOK t) && e.ps.all fun pv => a.params.any fun p => p.id == pv.1 && decide (pv.2.1 < 2 ^ p.bits)) = true) :
    validEntry Up4.info e = true := by
  unfold validEntry
  simp only [Bool.and_eq_true] at hshape hwidth
  rw [ht]; dsimp only; rw [ha]; dsimp only
  rw [hwidth.1, hshape.1.1.1.1, hshape.1.1.1.2, hshape.1.1.2, hshape.1.2, hwidth.2, hshape.2]; rfl

open Gen.P4Info

/-- `BuildGTPTunnelPeerTableEntry` -/
theorem peer_valid (id : Nat) (t : TP) (h1 : id < 256) (hs : t.src < 2^32) (hd : t.dst < 2^32) (hp : t.port < 2^16) :
    ∃ e, buildPeer id t = some e ∧ validEntry Up4.info e = true :=
  ⟨_, buildPeer_eq id t, validEntry_of t_PreQosPipe_tunnel_peers a_PreQosPipe_load_tunnel_param rfl rfl rfl
    (by simp [fmOK, h1, hs, hd, hp])⟩

/-- `BuildInterfaceTableEntry` (both the N3 address and the UE pool entry) -/
theorem interface_valid (ip plen slice : Nat) (isCore : Bool) (hi : ip < 2^32) (hl : plen ≤ 32) (hs : slice < 16) :
    ∃ e, buildInterface ip plen slice isCore = some e ∧ validEntry Up4.info e = true :=
  ⟨_, buildInterface_eq ip plen slice isCore, validEntry_of t_PreQosPipe_interfaces a_PreQosPipe_set_source_iface rfl rfl rfl
    (by cases isCore <;> simp [fmOK, Sdf.core, Sdf.access, Gen.Consts.DirectionDownlink, Gen.Consts.DirectionUplink, hi, hl, hs])⟩

/-- `buildUplinkSessionsEntry` -/
theorem sessions_uplink_valid (p : Pdr) (m : Meter) (peer : Nat) (buf : Bool) (ha : p.srcIface = Sdf.access)
    (h1 : p.tunnelIP4Dst < 2^32) (h2 : p.tunnelTEID < 2^32) (h3 : m.ul < 2^32) :
    ∃ e, buildSessions p m peer buf = some e ∧ validEntry Up4.info e = true :=
  ⟨_, buildSessions_uplink p m peer buf ha, validEntry_of t_PreQosPipe_sessions_uplink a_PreQosPipe_set_session_uplink rfl rfl rfl
    (by simp [fmOK, h1, h2, h3])⟩

/-- `buildDownlinkSessionsEntry`, forwarding and buffering -/
theorem sessions_downlink_valid (p : Pdr) (m : Meter) (peer : Nat) (buf : Bool) (hc : p.srcIface = Sdf.core)
    (h1 : p.ueAddress < 2^32) (h2 : peer < 256) (h3 : m.dl < 2^32) :
    ∃ e, buildSessions p m peer buf = some e ∧ validEntry Up4.info e = true := by
  refine ⟨_, buildSessions_downlink p m peer buf hc, ?_⟩
  cases buf
  · exact validEntry_of t_PreQosPipe_sessions_downlink a_PreQosPipe_set_session_downlink rfl rfl rfl
      (by simp [fmOK, h1, h2, h3])
  · exact validEntry_of t_PreQosPipe_sessions_downlink a_PreQosPipe_set_session_downlink_buff rfl rfl rfl
      (by simp [fmOK, h1, h3])

/-- `buildUplinkTerminationsEntry`, forward and drop -/
theorem terminations_uplink_valid (p : Pdr) (m : Meter) (f : Far) (appID qfi tc : Nat) (q : Qer) (ha : p.srcIface = Sdf.access)
    (h1 : p.ueAddress < 2^32) (h2 : appID < 256) (h3 : tc < 4) (h4 : m.ul < 2^32) (h5 : p.ctrID < 2^32) :
    ∃ e, buildTerminations p m f appID qfi tc q = some e ∧ validEntry Up4.info e = true := by
  refine ⟨_, buildTerminations_uplink p m f appID qfi tc q ha, ?_⟩
  cases (drops f || q.ulStatus == gateClosed)
  · exact validEntry_of t_PreQosPipe_terminations_uplink a_PreQosPipe_uplink_term_fwd rfl rfl rfl
      (by simp [fmOK, h1, h2, h3, h4, h5])
  · exact validEntry_of t_PreQosPipe_terminations_uplink a_PreQosPipe_uplink_term_drop rfl rfl rfl
      (by simp [fmOK, h1, h2, h5])

/-- `buildDownlinkTerminationsEntry`, forward and drop -/
theorem terminations_downlink_valid (p : Pdr) (m : Meter) (f : Far) (appID qfi tc : Nat) (q : Qer) (hc : p.srcIface = Sdf.core)
    (h1 : p.ueAddress < 2^32) (h2 : appID < 256) (h3 : tc < 4) (h4 : m.dl < 2^32) (h5 : p.ctrID < 2^32)
    (h6 : f.tunnelTEID < 2^32) (h7 : qfi < 64) :
    ∃ e, buildTerminations p m f appID qfi tc q = some e ∧ validEntry Up4.info e = true := by
  refine ⟨_, buildTerminations_downlink p m f appID qfi tc q hc, ?_⟩
  cases (drops f || q.dlStatus == gateClosed)
  · exact validEntry_of t_PreQosPipe_terminations_downlink a_PreQosPipe_downlink_term_fwd rfl rfl rfl
      (by simp [fmOK, h1, h2, h3, h4, h5, h6, h7])
  · exact validEntry_of t_PreQosPipe_terminations_downlink a_PreQosPipe_downlink_term_drop rfl rfl rfl
      (by simp [fmOK, h1, h2, h5])

/-- the body of `BuildApplicationsTableEntry`, all eight combinations of optional fields -/
theorem application_with_valid (prio slice appID ip plen lo hi proto mask : Nat) (a b c : Bool)
    (hp : prio ≠ 0) (hs : slice < 16) (ha : appID < 256) (hi' : ip < 2^32) (hl : plen ≤ 32) (hlo : lo < 2^16) (hhi : hi < 2^16)
    (hpr : proto < 256) (hm : mask < 256) :
    ∃ e, buildApplicationWith prio slice appID ip plen lo hi proto mask a b c = some e ∧ validEntry Up4.info e = true := by
  have opt : ∀ (p : FM → Bool) (b : Bool) (m : FM), p m = true → (if b then [m] else []).all p = true :=
    fun p b m h => by cases b <;> simp [h]
  refine ⟨_, buildApplicationWith_eq .., validEntry_of t_PreQosPipe_applications a_PreQosPipe_set_app_id rfl rfl ?_ ?_⟩
  · have : (prio != 0) = true := by simpa using hp
    dsimp only
    rw [this]
    cases a <;> cases b <;> cases c <;> rfl
  · dsimp only
    rw [List.all_cons, List.all_append, List.all_append, opt _ a _ (by simp [fmOK, hi', hl]), opt _ b _ (by simp [fmOK, hlo, hhi]),
      opt _ c _ (by simp [fmOK, hpr, hm])]
    simp [fmOK, hs, ha]

/-- `BuildApplicationsTableEntry` for a PDR that passed `verifyPDR` (precedence below 65535 when it has an application
filter: priority = 65535 - precedence ≠ 0) -/
theorem application_valid (p : Pdr) (slice appID : Nat) (hs : slice < 16) (ha : appID < 256)
    (hprec : p.precedence < 65535)
    (h1 : p.af.srcIP < 2^32) (h2 : p.af.dstIP < 2^32) (h3 : p.af.proto < 256) (h4 : p.af.protoMask < 256) :
    ∃ e, buildApplication p slice appID = some e ∧ validEntry Up4.info e = true := by
  unfold buildApplication
  by_cases hA : p.srcIface = Sdf.access
  · simp only [hA, if_true]
    exact application_with_valid _ _ _ _ _ _ _ _ _ _ _ _ (by omega) hs ha h2 (Nat.sub_le ..) p.af.dstPorts.low.isLt p.af.dstPorts.high.isLt h3 h4
  · by_cases hC : p.srcIface = Sdf.core
    · simp only [hC, if_true]
      exact application_with_valid _ _ _ _ _ _ _ _ _ _ _ _ (by omega) hs ha h1 (Nat.sub_le ..) p.af.srcPorts.low.isLt p.af.srcPorts.high.isLt h3 h4
    · simp only [hA, hC, if_false]
      exact application_with_valid _ _ _ _ _ _ _ _ _ _ _ _ (by omega) hs ha (by decide) (Nat.sub_le ..) (by decide) (by decide) h3 h4

/-- what `verifyPDR` leaves through: an application entry is only built for a precedence below 65535 -/
theorem verified_priority (p : Pdr) (hv : ¬ (p.precedence > 65535 ∨ (p.precedence = 65535 ∧ (!appFilterEmpty p) = true)))
    (hf : appFilterEmpty p = false) : p.precedence < 65535 ∧ 65535 - p.precedence ≠ 0 := by
  simp [hf] at hv; omega

/-- the specification is not vacuous: the same entry with priority 0 is refused (the defect repaired by the fix) -/
example : validEntry Up4.info { table := Gen.P4Constants.TablePreQosPipeApplications, ms := [⟨1, .exact, 0, 0, 1⟩], prio := 0, action := Gen.P4Constants.ActionPreQosPipeSetAppId, ps := [(1, 7, 1)] } = false := by decide
example : validEntry Up4.info { table := Gen.P4Constants.TablePreQosPipeApplications, ms := [⟨1, .exact, 0, 0, 1⟩], prio := 5, action := Gen.P4Constants.ActionPreQosPipeSetAppId, ps := [(1, 7, 1)] } = true := by decide
-- a parameter too many, a value too wide, a foreign action: refused
example : validEntry Up4.info { table := Gen.P4Constants.TablePreQosPipeTunnelPeers, ms := [⟨1, .exact, 2, 0, 1⟩], action := Gen.P4Constants.ActionPreQosPipeLoadTunnelParam, ps := [(1, 1, 4), (2, 2, 4)] } = false := by decide
example : validEntry Up4.info { table := Gen.P4Constants.TablePreQosPipeTunnelPeers, ms := [⟨1, .exact, 256, 0, 1⟩], action := Gen.P4Constants.ActionPreQosPipeLoadTunnelParam, ps := [(1, 1, 4), (2, 2, 4), (3, 2152, 2)] } = false := by decide
example : validEntry Up4.info { table := Gen.P4Constants.TablePreQosPipeTunnelPeers, ms := [⟨1, .exact, 2, 0, 1⟩], action := Gen.P4Constants.ActionPreQosPipeSetAppId, ps := [(1, 1, 1)] } = false := by decide

/-- cells of the application and session meter pools (1 … size-1) and counter cells (0 … size-1) are inside the arrays -/
theorem meter_index_valid (idx : Nat) (cfg : Option MeterCfg) (h : idx < 1024) :
    validUpd Up4.info ⟨.modify, .meter Gen.P4Constants.MeterPreQosPipeAppMeter idx cfg⟩ = true ∧
    validUpd Up4.info ⟨.modify, .meter Gen.P4Constants.MeterPreQosPipeSessionMeter idx cfg⟩ = true := by
  simp [validUpd, Up4.info]; omega

theorem counter_index_valid (idx : Nat) (h : idx < 1024) :
    validUpd Up4.info ⟨.modify, .counter Gen.P4Constants.CounterPreQosPipePreQosCounter idx⟩ = true ∧
    validUpd Up4.info ⟨.modify, .counter Gen.P4Constants.CounterPostQosPipePostQosCounter idx⟩ = true := by
  simp [validUpd, Up4.info]; omega

/-- the pools are created inside the arrays: `start` fills them from the sizes the P4Info declares (`ctrCells` is the size of the
pre-QoS counter in the served P4Info: 1024 in the shipped one) -/
theorem shipped_counter_cells (cfg : Cfg4) (h : cfg.ctrSize = 0) : ctrCells cfg = 1024 := by
  have h1 : arrSize Up4.info.counters Gen.P4Constants.CounterPreQosPipePreQosCounter = 1024 := by decide
  unfold ctrCells; rw [if_pos h]; exact h1

theorem start_pools_in_range (cfg : Cfg4) (srv : Srv) (injs : List Inj) :
    (∀ i ∈ (start cfg srv injs).1.st.ctrFree, i < ctrCells cfg) ∧ (∀ i ∈ (start cfg srv injs).1.st.appFree, 1 ≤ i ∧ i < 1024) ∧
    (∀ i ∈ (start cfg srv injs).1.st.sessFree, 1 ≤ i ∧ i < 1024) := by
  obtain ⟨srv', h | h, -⟩ := start_st cfg srv injs <;> rw [h]
  · exact ⟨nofun, nofun, nofun⟩
  · dsimp only
    exact ⟨fun i hi => List.mem_range.mp hi, fun i hi => mem_range_add hi, fun i hi => mem_range_add hi⟩

-- the body of the generated `GetSliceTCMeterIndex` (slice <<< 2 + tc &&& 3, widened to 64 bits) on all 16 × 4 admitted pairs
theorem slice_aux : ∀ a : Fin 16, ∀ b : Fin 4,
    (BitVec.setWidth 64 ((BitVec.ofNat 8 a.val <<< (2#64).toNat) + (BitVec.ofNat 8 b.val &&& 3#8))).toNat < 64 := by decide

/-- `GetSliceTCMeterIndex` (generated from utils.go): an accepted (slice, TC) pair indexes inside the slice meter of size 64 -/
theorem slice_index_lt_64 (s tc : BitVec 8) (i : BitVec 64) (h : Gen.Leaf.GetSliceTCMeterIndex s tc = some i) : i.toNat < 64 := by
  unfold Gen.Leaf.GetSliceTCMeterIndex at h
  split at h
  · cases h
  · split at h
    · cases h
    · cases h
      rename_i h1 h2
      have hs : s.toNat < 16 := by
        have : ¬ (16 ≤ s.toNat) := by simpa [BitVec.ule] using h1
        omega
      have ht : tc.toNat < 4 := by
        have : ¬ (4 ≤ tc.toNat) := by simpa [BitVec.ule] using h2
        omega
      have := slice_aux ⟨s.toNat, hs⟩ ⟨tc.toNat, ht⟩
      simpa using this

theorem slice_meter_declared : arrSize Up4.info.meters Gen.P4Constants.MeterPreQosPipeSliceTcMeter = 64 := by decide

/-! ## the compiled constants name the pipeline objects the builders mean -/

theorem constants_resolve :
    (Up4.info.tables.find? (·.id == Gen.P4Constants.TablePreQosPipeSessionsUplink)).map (·.name) = some "PreQosPipe.sessions_uplink" ∧
    (Up4.info.tables.find? (·.id == Gen.P4Constants.TablePreQosPipeSessionsDownlink)).map (·.name) = some "PreQosPipe.sessions_downlink" ∧
    (Up4.info.tables.find? (·.id == Gen.P4Constants.TablePreQosPipeTerminationsUplink)).map (·.name) = some "PreQosPipe.terminations_uplink" ∧
    (Up4.info.tables.find? (·.id == Gen.P4Constants.TablePreQosPipeTerminationsDownlink)).map (·.name) = some "PreQosPipe.terminations_downlink" ∧
    (Up4.info.tables.find? (·.id == Gen.P4Constants.TablePreQosPipeTunnelPeers)).map (·.name) = some "PreQosPipe.tunnel_peers" ∧
    (Up4.info.tables.find? (·.id == Gen.P4Constants.TablePreQosPipeInterfaces)).map (·.name) = some "PreQosPipe.interfaces" ∧
    (Up4.info.tables.find? (·.id == Gen.P4Constants.TablePreQosPipeApplications)).map (·.name) = some "PreQosPipe.applications" ∧
    (Up4.info.actions.find? (·.id == Gen.P4Constants.ActionPreQosPipeSetSessionUplink)).map (·.name) = some "PreQosPipe.set_session_uplink" ∧
    (Up4.info.actions.find? (·.id == Gen.P4Constants.ActionPreQosPipeSetSessionDownlink)).map (·.name) = some "PreQosPipe.set_session_downlink" ∧
    (Up4.info.actions.find? (·.id == Gen.P4Constants.ActionPreQosPipeSetSessionDownlinkBuff)).map (·.name) = some "PreQosPipe.set_session_downlink_buff" ∧
    (Up4.info.actions.find? (·.id == Gen.P4Constants.ActionPreQosPipeUplinkTermFwd)).map (·.name) = some "PreQosPipe.uplink_term_fwd" ∧
    (Up4.info.actions.find? (·.id == Gen.P4Constants.ActionPreQosPipeUplinkTermDrop)).map (·.name) = some "PreQosPipe.uplink_term_drop" ∧
    (Up4.info.actions.find? (·.id == Gen.P4Constants.ActionPreQosPipeDownlinkTermFwd)).map (·.name) = some "PreQosPipe.downlink_term_fwd" ∧
    (Up4.info.actions.find? (·.id == Gen.P4Constants.ActionPreQosPipeDownlinkTermDrop)).map (·.name) = some "PreQosPipe.downlink_term_drop" ∧
    (Up4.info.actions.find? (·.id == Gen.P4Constants.ActionPreQosPipeSetAppId)).map (·.name) = some "PreQosPipe.set_app_id" ∧
    (Up4.info.actions.find? (·.id == Gen.P4Constants.ActionPreQosPipeLoadTunnelParam)).map (·.name) = some "PreQosPipe.load_tunnel_param" ∧
    (Up4.info.actions.find? (·.id == Gen.P4Constants.ActionPreQosPipeSetSourceIface)).map (·.name) = some "PreQosPipe.set_source_iface" ∧
    (Up4.info.meters.find? (·.id == Gen.P4Constants.MeterPreQosPipeAppMeter)).map (·.name) = some "PreQosPipe.app_meter" ∧
    (Up4.info.meters.find? (·.id == Gen.P4Constants.MeterPreQosPipeSessionMeter)).map (·.name) = some "PreQosPipe.session_meter" ∧
    (Up4.info.meters.find? (·.id == Gen.P4Constants.MeterPreQosPipeSliceTcMeter)).map (·.name) = some "PreQosPipe.slice_tc_meter" ∧
    (Up4.info.counters.find? (·.id == Gen.P4Constants.CounterPreQosPipePreQosCounter)).map (·.name) = some "PreQosPipe.pre_qos_counter" ∧
    (Up4.info.counters.find? (·.id == Gen.P4Constants.CounterPostQosPipePostQosCounter)).map (·.name) = some "PostQosPipe.post_qos_counter" := by
  and_intros <;> rfl

/-- the widths compiled into `GetSliceTCMeterIndex` are the pipeline's -/
theorem widths_match :
    Gen.P4Constants.BitwidthMfSliceId = 4 ∧ Gen.P4Constants.BitwidthApTc = 2 ∧ Gen.P4Constants.BitwidthApQfi = 6 ∧
    Gen.P4Constants.MeterSizePreQosPipeAppMeter = 1024 ∧ Gen.P4Constants.MeterSizePreQosPipeSessionMeter = 1024 ∧
    Gen.P4Constants.MeterSizePreQosPipeSliceTcMeter = 64 ∧ Gen.P4Constants.CounterSizePreQosPipePreQosCounter = 1024 := by decide

end C16
