import Upf.Proofs.Strip
import Upf.Proofs.Conf
/-!
# C18 — configuration loading yields a validated configuration or an error

`LoadConfigFile` = `removeComments` ; `json.Unmarshal` over two pre-decode defaults ; four "when missing" defaults ;
`validateConf`.

* `Strip.strip .code` is a three-mode scanner equivalent to the regexp `(?m)//.*$|/\*.*?\*/` under Go's leftmost-first
  matching (tied to `removeComments` byte for byte by the trace acceptor; the regexp literal itself is regenerated and
  pinned by `comment_regexp_pinned`).
* `Conf.load P d` = `Conf.decode` ; `Conf.finish` transcribes the rest; the standard-library predicates are the
  parameter `P`, so every theorem holds whatever `time.ParseDuration`, `net.ParseCIDR`, `net.ParseIP` and
  `zapcore.Level.UnmarshalText` decide.

JSON tokenising itself, the regexp engine and the four library predicates are not modelled (the property is "partial"
in exactly that sense); they are exercised by the correspondence run.
-/
namespace Props.C18
open Strip Conf

/-- For every well-formed document (plain text pieces interleaved with `//…` comments that run to the end of their
line and single-line `/*…*/` comments) the scanner returns exactly the text pieces. -/
theorem strip_render (ps : List Piece) (h : WF ps) : strip .code (render ps) = expected ps :=
  Strip.strip_render ps h

/-- Hence the result depends on the text pieces only: two well-formed documents with the same text — e.g. one with
and one without comments, or with comments at other places — strip to the same string. -/
theorem comments_ignored (ps qs : List Piece) (hp : WF ps) (hq : WF qs) (h : expected ps = expected qs) :
    strip .code (render ps) = strip .code (render qs) := by
  rw [Strip.strip_render ps hp, Strip.strip_render qs hq, h]

/-- a single-line block comment between two texts (the first not ending in `/`, as no JSON token does) vanishes -/
theorem insert_block_comment (a c body : List Char) (ha : Plain a) (hc : Plain c)
    (hb : '\n' ∉ body) (hb' : NoPair '*' '/' (body ++ ['*'])) :
    strip .code (a ++ '/' :: '*' :: (body ++ '*' :: '/' :: c)) = a ++ c := by
  have := Strip.strip_render [.text a, .block body, .text c] ⟨ha, hb, hb', hc, trivial⟩
  simpa [render, expected] using this

/-- a line comment vanishes up to (not including) its newline -/
theorem insert_line_comment (a c body : List Char) (ha : Plain a) (hc : Plain ('\n' :: c)) (hb : '\n' ∉ body) :
    strip .code (a ++ '/' :: '/' :: (body ++ '\n' :: c)) = a ++ '\n' :: c := by
  have := Strip.strip_render [.text a, .line body, .text ('\n' :: c)] ⟨ha, hb, ⟨hc, trivial⟩, Or.inr ⟨c, [], rfl⟩⟩
  simpa [render, expected] using this

/-- a line comment may end the input without a newline -/
theorem insert_line_comment_eof (a body : List Char) (ha : Plain a) (hb : '\n' ∉ body) :
    strip .code (a ++ '/' :: '/' :: body) = a := by
  have := Strip.strip_render [.text a, .line body] ⟨ha, hb, trivial, Or.inl rfl⟩
  simpa [render, expected] using this

/-- text without `//`, `/*` and a trailing `/` is returned unchanged: a value that contains no comment marker is
never altered -/
theorem comment_free_unchanged (cs : List Char) (h : Plain cs) : strip .code cs = cs := Strip.strip_plain cs h

/-- what is left of a well-formed document is comment-free, so a second pass changes nothing -/
theorem strip_idempotent (ps : List Piece) (h : WF ps) :
    Plain (strip .code (render ps)) ∧ strip .code (strip .code (render ps)) = strip .code (render ps) := by
  refine ⟨?_, Strip.strip_idem_render ps h⟩
  rw [Strip.strip_render ps h]
  exact Strip.expected_plain ps h

/-- the scanner only deletes — on ANY input, in any mode, the output is never longer than the input -/
theorem strip_never_longer (m : Mode) (s : List Char) : (strip m s).length ≤ s.length := Strip.strip_length_le m s

/-- the executable well-formedness test the acceptor uses implies `WF` -/
theorem wf_check_sound (ps : List Piece) (h : wfB ps = true) : WF ps := Strip.wfB_sound ps h

/-- T1: the regexp the scanner was proved against is the one in `removeComments` (regenerated literal), and matches
are replaced by the empty string -/
theorem comment_regexp_pinned :
    Gen.Conf.commentRegex = "(?m)//.*$|/\\*.*?\\*/" ∧ Gen.Conf.commentReplacement = "" := ⟨rfl, rfl⟩

/-! ## defaults (T1: regenerated constants equal the documented literals) -/

/-- response timeout 2 s, 5 retries, read timeout 15 s, heartbeat interval 5 s — as constants and in the form the
code stores them (`Duration.String()`, `uint32(Seconds())`) -/
theorem defaults_documented :
    Gen.Consts.respTimeoutDefault = 2 * 1000000000 ∧ Gen.Consts.maxReqRetriesDefault = 5 ∧
    Gen.Consts.readTimeoutDefault = 15 * 1000000000 ∧ Gen.Consts.hbIntervalDefault = 5 * 1000000000 ∧
    respTimeoutDefaultStr = "2s" ∧ maxReqRetriesDefault = 5 ∧ readTimeoutDefaultSecs = 15 ∧ hbIntervalDefaultStr = "5s" :=
  ⟨rfl, rfl, rfl, rfl, respTimeoutDefaultStr_eq, maxReqRetriesDefault_eq, readTimeoutDefaultSecs_eq, hbIntervalDefaultStr_eq⟩

/-- log level `info` (zapcore.InfoLevel = 0) and traffic class ELASTIC (3) are assigned before decoding -/
theorem pre_decode_defaults_documented :
    Gen.Conf.logLevelInit = 0 ∧ Gen.Conf.defaultTCInit = 3 ∧ Conf.init.logLevel = infoLevel ∧ Conf.init.defaultTC = elasticTC :=
  ⟨rfl, rfl, init_logLevel, init_defaultTC⟩

/-- the supported BESS modes are the five documented ones -/
theorem modes_documented (m : String) : m ∈ Conf.modes ↔ m ∈ ["af_xdp", "af_packet", "cndp", "dpdk", "sim"] :=
  Conf.mem_modes m

/-- the JSON keys the document generator and the sample files use are the struct tags -/
theorem keys_documented :
    Gen.Conf.keyMode = "mode" ∧ Gen.Conf.keyEnableP4rt = "enable_p4rt" ∧ Gen.Conf.keyCPIface = "cpiface" ∧
    Gen.Conf.keyP4rtcIface = "p4rtciface" ∧ Gen.Conf.keyReadTimeout = "read_timeout" ∧ Gen.Conf.keyLogLevel = "log_level" ∧
    Gen.Conf.keyMaxReqRetries = "max_req_retries" ∧ Gen.Conf.keyRespTimeout = "resp_timeout" ∧
    Gen.Conf.keyEnableHBTimer = "enable_hbTimer" ∧ Gen.Conf.keyHeartBeatInterval = "heart_beat_interval" ∧
    Gen.Conf.keyPeers = "peers" ∧ Gen.Conf.keyEnableUeIPAlloc = "enable_ue_ip_alloc" ∧ Gen.Conf.keyUEIPPool = "ue_ip_pool" ∧
    Gen.Conf.keyAccessIP = "access_ip" ∧ Gen.Conf.keyDefaultTC = "default_tc" :=
  ⟨rfl, rfl, rfl, rfl, rfl, rfl, rfl, rfl, rfl, rfl, rfl, rfl, rfl, rfl, rfl⟩

/-- For all decoded configurations and all library predicates: a returned configuration has the documented defaults
filled in, every duration it will use parses, read timeout and retries are non-zero, the mode is one of the five BESS
modes or — with UP4 — empty with access IP and UE pool parsing, the UE pool parses when UE IP allocation is on, every
peer parses, and every other field is what was decoded. -/
theorem finish_valid (P : Preds) (raw c : C) (h : finish P raw = .ok c) : Valid P raw c := Conf.finish_valid P raw c h

/-- …and nothing valid is refused: loading succeeds exactly when the configuration with defaults is sound -/
theorem finish_ok_iff (P : Preds) (raw c : C) : finish P raw = .ok c ↔ c = defaults raw ∧ Sound P (defaults raw) :=
  Conf.finish_ok_iff P raw c

/-- a refusal names a check that really fails -/
theorem refusal_justified (P : Preds) (raw : C) (e : Err) (h : finish P raw = .error e) :
    ErrMeans P (defaults raw) e ∧ ¬ Sound P (defaults raw) := Conf.finish_error_means P raw e h

/-- loading is total: a sound configuration or an error, nothing else -/
theorem finish_total (P : Preds) (raw : C) :
    (∃ c, finish P raw = .ok c ∧ Valid P raw c) ∨ (∃ e, finish P raw = .error e) := by
  cases h : finish P raw with
  | ok c => exact Or.inl ⟨c, rfl, Conf.finish_valid P raw c h⟩
  | error e => exact Or.inr ⟨e, rfl⟩

/-- the `ReadTimeout == 0` and `MaxReqRetries == 0` checks of `validateConf` can never fire after the defaults -/
theorem zero_checks_dead (P : Preds) (raw : C) :
    finish P raw ≠ .error .readTimeout ∧ finish P raw ≠ .error .retries ∧ finish P raw ≠ .error .decode :=
  Conf.finish_zero_checks_dead P raw

/-- filling defaults twice is filling them once -/
theorem defaults_idempotent (raw : C) : defaults (defaults raw) = defaults raw := Conf.defaults_idem raw

/-- For every document (any JSON value, or none, under each key) and all library predicates: if loading returns a
configuration then decoding succeeded and the configuration is valid with respect to the decoded values. -/
theorem load_valid (P : Preds) (d : Doc) (c : C) (h : load P d = .ok c) :
    ∃ raw, decode P d = some raw ∧ Valid P raw c := Conf.load_valid P d c h

/-- a document that does not mention the log level / the default traffic class gets `info` / 3 -/
theorem load_pre_decode_defaults (P : Preds) (d : Doc) (c : C) (h : load P d = .ok c) :
    ((d.logLevel = .absent ∨ d.logLevel = .null) → c.logLevel = infoLevel) ∧
    ((d.defaultTC = .absent ∨ d.defaultTC = .null) → c.defaultTC = elasticTC) := by
  obtain ⟨raw, hd, hf⟩ := (Conf.load_ok_iff P d c).mp h
  -- `defaults` leaves both fields alone
  obtain ⟨rfl, -⟩ := (Conf.finish_ok_iff P raw c).mp hf
  exact Conf.decode_pre_defaults P d raw hd

/-- a document whose values have the wrong JSON kind or an out-of-range integer is refused as a decoding error, and
only such a document is -/
theorem load_decode_error_iff (P : Preds) (d : Doc) : load P d = .error .decode ↔ decode P d = none :=
  Conf.load_decode_error_iff P d

/-! ## end to end: file content in, configuration or error out

`loadFile parse P text` composes the scanner, a JSON reader `parse` (a parameter: any function from comment-free text
to "what sits under each key", or a syntax error), decoding, defaults and validation. -/

/-- For ANY file content, any JSON reader and any library predicates: loading returns an error or a configuration
that is sound and has the documented defaults filled in relative to what was decoded. -/
theorem loadFile_valid (parse : List Char → Option Doc) (P : Preds) (text : List Char) :
    (∃ e, loadFile parse P text = .error e) ∨
    (∃ c d raw, loadFile parse P text = .ok c ∧ parse (strip .code text) = some d ∧ decode P d = some raw ∧ Valid P raw c) := by
  unfold loadFile
  cases hp : parse (strip .code text) with
  | none => exact Or.inl ⟨_, rfl⟩
  | some d =>
    cases hl : load P d with
    | error e => exact Or.inl ⟨e, hl⟩
    | ok c =>
      obtain ⟨raw, hd, hv⟩ := Conf.load_valid P d c hl
      exact Or.inr ⟨c, d, raw, hl, rfl, hd, hv⟩

/-- Comments are ignored end to end: a well-formed commented document loads exactly like its text with the comments
deleted — whatever the JSON reader and the predicates are. -/
theorem loadFile_comments_ignored (parse : List Char → Option Doc) (P : Preds) (ps : List Piece) (h : WF ps) :
    loadFile parse P (render ps) = loadFile parse P (expected ps) := by
  unfold loadFile
  rw [Strip.strip_render ps h, Strip.strip_plain _ (Strip.expected_plain ps h)]

/-- …so two well-formed documents that differ only in their comments load alike -/
theorem loadFile_comment_placement_irrelevant (parse : List Char → Option Doc) (P : Preds) (ps qs : List Piece)
    (hp : WF ps) (hq : WF qs) (h : expected ps = expected qs) :
    loadFile parse P (render ps) = loadFile parse P (render qs) := by
  rw [loadFile_comments_ignored parse P ps hp, loadFile_comments_ignored parse P qs hq, h]

private def P0 : Preds :=
  { dur := fun s => ["2s", "5s", "1m"].contains s, cidr := fun s => ["198.18.0.1/32", "10.250.0.0/16"].contains s,
    ip := fun s => ["10.0.0.1"].contains s, level := fun s => if s = "debug" then some (-1) else none }

private def docBess : Doc :=
  { mode := .str "dpdk", enableP4rt := .absent, accessIP := .absent, uePool := .absent, enableUeIPAlloc := .absent,
    peers := .arr [.str "10.0.0.1"], respTimeout := .absent, readTimeout := .num 0, maxReqRetries := .null,
    enableHB := .bool true, hbInterval := .str "", logLevel := .absent, defaultTC := .absent }

private def confBess : C :=
  { mode := "dpdk", enableP4rt := false, accessIP := "", uePool := "", enableUeIPAlloc := false,
    peers := ["10.0.0.1"], respTimeout := "2s", readTimeout := 15, maxReqRetries := 5, enableHB := true,
    hbInterval := "5s", logLevel := 0, defaultTC := 3 }

private def docUp4 : Doc :=
  { docBess with
    mode := .absent, enableP4rt := .bool true, accessIP := .str "198.18.0.1/32", uePool := .str "10.250.0.0/16",
    logLevel := .str "debug", defaultTC := .num 1 }

-- a BESS document with nothing but a mode, a peer and the heartbeat switch loads, with every default filled in
example : load P0 docBess = .ok confBess := by decide +kernel
-- UP4: mode must be absent, access IP and UE pool must parse; explicit log level and traffic class are kept
example : load P0 docUp4 = .ok { confBess with mode := "", enableP4rt := true, accessIP := "198.18.0.1/32",
                                               uePool := "10.250.0.0/16", logLevel := -1, defaultTC := 1 } := by decide +kernel
example : load P0 { docBess with enableP4rt := .bool true, accessIP := .str "198.18.0.1/32", uePool := .str "10.250.0.0/16" }
    = .error .modeP4 := by decide +kernel
example : load P0 { docUp4 with uePool := .absent } = .error .uePoolP4 := by decide +kernel
example : load P0 { docUp4 with accessIP := .str "198.18.0.1" } = .error .accessIP := by decide +kernel
example : load P0 { docBess with enableUeIPAlloc := .bool true } = .error .uePoolAlloc := by decide +kernel
example : load P0 { docBess with respTimeout := .str "2" } = .error .respTimeout := by decide +kernel
example : load P0 { docBess with mode := .str "DPDK" } = .error .modeBess := by decide +kernel
example : load P0 { docBess with peers := .arr [.str "10.0.0.1", .str "upf.example.org"] } = .error (.peer "upf.example.org") := by decide +kernel
example : load P0 { docBess with hbInterval := .str "5" } = .error .hbInterval := by decide +kernel
example : load P0 { docBess with readTimeout := .num 4294967296 } = .error .decode := by decide +kernel
example : load P0 { docBess with maxReqRetries := .str "5" } = .error .decode := by decide +kernel
example : load P0 { docBess with logLevel := .str "trace" } = .error .decode := by decide +kernel

-- a well-formed document with all three kinds of pieces; two block comments on one line; `//` inside a block comment
private def sampleDoc : List Piece :=
  [.text "{ ".toList, .block " a // b ".toList, .text " \"x\": 1, ".toList, .block "".toList, .text " \"p\": \"/tmp/y\" ".toList,
   .line " tail /* not a block */".toList, .text "\n}".toList, .line "".toList]
example : WF sampleDoc := wf_check_sound _ (by decide +kernel)
example : String.ofList (render sampleDoc) = "{ /* a // b */ \"x\": 1, /**/ \"p\": \"/tmp/y\" // tail /* not a block */\n}//" := by
  -- a string literal is `String.ofList` of its characters; comparing the characters is cheap for the kernel,
  -- deciding the equation with `String.decEq` compares UTF-8 byte arrays and is slow
  show String.ofList _ = String.ofList _
  exact congrArg String.ofList (by decide +kernel)
example : String.ofList (strip .code (render sampleDoc)) = "{  \"x\": 1,  \"p\": \"/tmp/y\" \n}" := by
  show String.ofList _ = String.ofList _
  exact congrArg String.ofList (by decide +kernel)

-- limits the property states: a multi-line block comment is NOT removed (the document then fails to parse, loudly);
-- a marker inside a string IS treated as a comment
example : removeComments "{ /* a\n b */ }" = "{ /* a\n b */ }" := by decide +kernel
example : removeComments "{\"u\": \"http://x\"}" = "{\"u\": \"http:" := by decide +kernel
example : removeComments "{\"u\": \"a/*b*/c\"}" = "{\"u\": \"ac\"}" := by decide +kernel
-- not idempotent outside well-formed documents: deleting a comment can create a new marker
example : removeComments "a //**/ b" = "a " ∧ removeComments "a /*/**/*/ b" = "a */ b" ∧ removeComments "1 //**// 2" = "1 " := by decide +kernel

end Props.C18
