import Upf.Proofs.Route
/-!
# C20 — BESS route modules mirror the kernel's routes and neighbours

`Route` (`Upf/Model/Route.lean`) transcribes the three netlink handlers of `conf/route_control.py`
(`add_new_route_entry`/`_add_neighbor`, `delete_route_entry`, `add_unresolved_new_neighbor`) with the C20 repair
applied, together with what bessd holds after the commands they issue.  All theorems are for **every** event
sequence `evs` that respects the envelope `Valid ifOf` (each next hop is on-link on one interface `ifOf nh`; the
kernel holds at most one route per (interface, prefix), adds only routes it does not have, deletes only routes it
has; RTM_NEWNEIGH may come at any time, repeatedly), from **every** initial neighbour table `known0`, with any
number of prefixes, next hops and interfaces.
-/
namespace Props.C20
open Route

variable (ifOf : Nat → Nat) (known0 : Nat → Bool) (evs : List Ev)

/-- the state the controller, bessd and the kernel are in after `evs` -/
abbrev after : St := run (init known0) evs

/-- refinement: after every event sequence the eleven-clause invariant `Route.Inv` relates the controller's
caches, bessd's module graph and the kernel's routes / known MACs -/
theorem route_refines (hv : Valid ifOf (init known0) evs) : Inv ifOf (after known0 evs) :=
  run_inv evs (init known0) (inv_init known0) hv

/-- the two environment components of the state are exactly what the events say: the kernel's routes are the
added minus the deleted ones, the known MACs are the initial ones plus every RTM_NEWNEIGH so far -/
theorem env_exact :
    (after known0 evs).kernel = evs.foldl kernelStep [] ∧
    (after known0 evs).known = evs.foldl knownStep known0 :=
  run_env evs (init known0)

/-- a route is in its interface's lookup table iff the kernel has it and its next hop's MAC is known -/
theorem installed_iff (hv : Valid ifOf (init known0) evs) (r : R) :
    (∃ g, (r, g) ∈ (after known0 evs).installed) ↔
      (r ∈ (after known0 evs).kernel ∧ (after known0 evs).known r.nh = true) := by
  rw [← (route_refines ifOf known0 evs hv).inst r]
  simp only [List.mem_map]
  constructor
  · rintro ⟨g, hg⟩; exact ⟨(r, g), hg, rfl⟩
  · rintro ⟨e, he, rfl⟩; exact ⟨e.2, he⟩

/-- no lookup table holds two entries for one prefix: `delete prefix` removes exactly the route it was issued
for, `add` never replaces another route's entry (so the route-indexed `installed` list *is* bessd's table) -/
theorem table_keys_unique (hv : Valid ifOf (init known0) evs) (e e' : R × Nat)
    (he : e ∈ (after known0 evs).installed) (he' : e' ∈ (after known0 evs).installed)
    (hk : e.1.ifc = e'.1.ifc ∧ e.1.pfx = e'.1.pfx) : e = e' := by
  have hi := route_refines ifOf known0 evs hv
  exact ListKeys.inj_of_nodup_map hi.instN he he' (Route.table_keys_unique _ hi e e' he he' (by simp [R.key, hk.1, hk.2]))

/-- the routes still waiting are exactly the kernel's routes whose next hop is unresolved — in particular a route
deleted while waiting is gone from the waiting list, and several routes can wait for one next hop -/
theorem waiting_iff (hv : Valid ifOf (init known0) evs) (r : R) :
    r ∈ (after known0 evs).pending ↔
      (r ∈ (after known0 evs).kernel ∧ (after known0 evs).known r.nh = false) :=
  (route_refines ifOf known0 evs hv).pend r

/-- RTM_NEWNEIGH for `nh` installs *every* kernel route through `nh` (all that were waiting, not just one), and
installs nothing the kernel does not have -/
theorem newneigh_installs_all (hv : Valid ifOf (init known0) evs) (nh : Nat) (r : R) (hr : r.nh = nh) :
    (∃ g, (r, g) ∈ (after known0 (evs ++ [Ev.newNeigh nh])).installed) ↔ r ∈ (after known0 evs).kernel := by
  have hv' : Valid ifOf (init known0) (evs ++ [Ev.newNeigh nh]) := valid_append evs _ _ hv ⟨trivial, trivial⟩
  rw [installed_iff ifOf known0 _ hv' r]
  have e1 := (env_exact known0 (evs ++ [Ev.newNeigh nh]))
  have e0 := (env_exact known0 evs)
  rw [e1.1, e1.2, e0.1]
  simp only [List.foldl_append, List.foldl_cons, List.foldl_nil, kernelStep, knownStep, hr, if_true, and_true]

/-- all routes through one next hop share one output gate, and that gate is the one connected to the single
Update module of that next hop on the route's interface -/
theorem shared_gate (hv : Valid ifOf (init known0) evs) (e : R × Nat) (he : e ∈ (after known0 evs).installed) :
    (after known0 evs).mods e.1.ifc e.1.nh = some e.2 ∧ e.1.ifc = ifOf e.1.nh :=
  ⟨Route.shared_gate _ (route_refines ifOf known0 evs hv) e he,
   Route.installed_if _ (route_refines ifOf known0 evs hv) e he⟩

theorem same_nexthop_same_gate (hv : Valid ifOf (init known0) evs) (e e' : R × Nat)
    (he : e ∈ (after known0 evs).installed) (he' : e' ∈ (after known0 evs).installed) (hn : e.1.nh = e'.1.nh) :
    e.2 = e'.2 ∧ e.1.ifc = e'.1.ifc := by
  obtain ⟨h1, h2⟩ := shared_gate ifOf known0 evs hv e he
  obtain ⟨h1', h2'⟩ := shared_gate ifOf known0 evs hv e' he'
  have hi : e.1.ifc = e'.1.ifc := by rw [h2, h2', hn]
  rw [hi, hn, h1'] at h1
  exact ⟨(Option.some.inj h1).symm, hi⟩

/-- the Update module of a next hop exists iff at least one installed route uses it -/
theorem module_iff_used (hv : Valid ifOf (init known0) evs) (i nh : Nat) :
    ((after known0 evs).mods i nh).isSome ↔ ∃ e ∈ (after known0 evs).installed, e.1.ifc = i ∧ e.1.nh = nh :=
  Route.module_iff_used _ (route_refines ifOf known0 evs hv) i nh

/-- two live next hops of one lookup module never share a gate -/
theorem gates_distinct (hv : Valid ifOf (init known0) evs) (i a b g g' : Nat)
    (ha : (after known0 evs).mods i a = some g) (hb : (after known0 evs).mods i b = some g') (hab : a ≠ b) :
    g ≠ g' :=
  Route.gates_distinct _ (route_refines ifOf known0 evs hv) i a b g g' ha hb hab

/-- the neighbour cache's reference count of a next hop is the number of installed routes through it; an entry
exists iff that number is positive (the entry and the module go when the last route goes) -/
theorem refcount_exact (hv : Valid ifOf (init known0) evs) (nh : Nat) :
    match (after known0 evs).neigh nh with
    | some (_, c) => c = cnt nh (after known0 evs).installed ∧ 1 ≤ c
    | none => cnt nh (after known0 evs).installed = 0 := by
  have := (route_refines ifOf known0 evs hv).ngh nh
  cases hn : (after known0 evs).neigh nh with
  | none => rw [hn] at this; exact this.1
  | some gc => obtain ⟨g, c⟩ := gc; rw [hn] at this; exact ⟨this.1, this.2.1⟩

/-! ### non-vacuity: the envelope is satisfiable by the sequences on which the unrepaired file failed, and the
model does the right thing on them (next hops 0, 1 on interface 0, next hop 2 on interface 1) -/

def ifOf₀ : Nat → Nat := fun h => if h = 2 then 1 else 0
def unknown : Nat → Bool := fun _ => false

-- two routes wait for one next hop; both are installed at one gate when it resolves
example : Valid ifOf₀ (init unknown) [.newRoute ⟨0, 0, 0⟩, .newRoute ⟨1, 0, 0⟩, .newNeigh 0] := by decide
example : (after unknown [.newRoute ⟨0, 0, 0⟩, .newRoute ⟨1, 0, 0⟩, .newNeigh 0]).installed
    = [(⟨1, 0, 0⟩, 0), (⟨0, 0, 0⟩, 0)] := by decide
-- a route deleted while waiting is not installed later
example : Valid ifOf₀ (init unknown) [.newRoute ⟨0, 0, 0⟩, .delRoute ⟨0, 0, 0⟩, .newNeigh 0] := by decide
example : (after unknown [.newRoute ⟨0, 0, 0⟩, .delRoute ⟨0, 0, 0⟩, .newNeigh 0]).installed = [] := by decide
-- the last route of a next hop goes: module and cache entry go, the gate is not reused
example : Valid ifOf₀ (init unknown)
    [.newNeigh 0, .newRoute ⟨0, 0, 0⟩, .delRoute ⟨0, 0, 0⟩, .newRoute ⟨1, 1, 0⟩, .newNeigh 1, .newRoute ⟨0, 2, 1⟩, .newNeigh 2] := by
  decide
example :
    let s := after unknown
      [.newNeigh 0, .newRoute ⟨0, 0, 0⟩, .delRoute ⟨0, 0, 0⟩, .newRoute ⟨1, 1, 0⟩, .newNeigh 1, .newRoute ⟨0, 2, 1⟩, .newNeigh 2]
    s.mods 0 0 = none ∧ s.neigh 0 = none ∧ s.mods 0 1 = some 1 ∧ s.mods 1 2 = some 0 ∧
    s.installed = [(⟨0, 2, 1⟩, 0), (⟨1, 1, 0⟩, 1)] := by decide
-- outside the envelope: a second route for an occupied (interface, prefix) slot, a route through the wrong interface
example : ¬ Valid ifOf₀ (init unknown) [.newRoute ⟨0, 0, 0⟩, .newRoute ⟨0, 1, 0⟩] := by decide
example : ¬ Valid ifOf₀ (init unknown) [.newRoute ⟨0, 2, 0⟩] := by decide

end Props.C20
