import Upf.Proofs.Lockset
import Upf.Proofs.Tab
import Upf.Model.LockFacts
import Upf.Proofs.AnyHistory
/-!
# C11 — concurrent associations do not interfere

What a theorem can carry here (DESIGN.md, "runtime behaviour the model cannot exhibit"): the Go scheduler and memory
model are not modelled; the logic is.

* `Gen.Locks` is regenerated from the source on every run: per mutex-carrying type, which methods start with
  `Lock(); defer Unlock()`, which fields each method touches, which methods it calls, which functions outside the type
  touch its fields. The facts below are evaluated on it (`decide`): the state every association shares is only reached
  with a lock of its object held.
* `Lockset.race_free`: in a program obeying such a discipline (an access is only issued by a thread holding the guard
  of the location) no two threads are ever inside accesses guarded by the same mutex — no data race, for every schedule
  of any length and any number of threads.
* With `UP4.SendMsgToUPF` holding one mutex for the whole request, a concurrent execution of the UP4 plug-in IS a
  one-at-a-time ordering of the requests: C04 / C15 / C16, which are proved / checked for every request sequence, apply.
* On BESS the associations' requests program disjoint keys; `Tab.interleave_eq_seq`: every interleaving of two command
  streams on disjoint keys ends in the same tables as one stream after the other.

The implementation side is decided by the correspondence run: streams from 2–8 associations at the same time against the
agent built with the race detector, on both datapaths.
-/
namespace C11
open Gen.Locks

/-- UP4: the bookkeeping shared by all associations -/
def up4Shared : List String :=
  ["counters", "meters", "appMeterCellIDsPool", "sessMeterCellIDsPool", "ueAddrToFSEID", "fseidToUEAddr",
   "tunnelPeerIDs", "tunnelPeerIDsPool", "applicationIDs", "applicationIDsPool"]

/-- **T1 fact**: apart from the constructor `SetUpfInfo` (which runs before the plug-in is handed to any other goroutine),
no path from an entry point of `UP4` reaches a method touching the shared bookkeeping without passing through a method
that takes a lock; in particular `SendMsgToUPF` — the entry every association's goroutine uses — takes it first. -/
theorem up4_shared_state_guarded :
    (UP4.exposed ["SetUpfInfo"]).filter up4Shared.contains = [] ∧
    (UP4.methods.find? (·.name == "SendMsgToUPF")).map (·.locked) = some true ∧
    UP4.external = [] ∧ UP4.mutexes.contains "mu" = true := by decide +kernel

/-- the fields named above exist (the fact is about something): each is touched by some method -/
theorem up4_shared_fields_exist : up4Shared.all (fun f => UP4.methods.any fun m => m.fields.contains f) = true := by decide +kernel

/-- the other objects all associations share: UE address pool and TEID generator are atomic objects -/
theorem pools_atomic : IPPool.atomic = true ∧ FTEIDGenerator.atomic = true := by decide

/-- lock discipline ⇒ no data race, for every schedule -/
theorem no_race_under_discipline (guard : Lockset.Loc → Lockset.Lock) (acts : List Lockset.Act) (s s' : Lockset.St)
    (h0 : Lockset.Inv guard s) (hr : Lockset.run guard s acts = some s') (t u : Lockset.Tid) (x y : Lockset.Loc)
    (htu : t ≠ u) (hx : s'.inside t = some x) (hy : s'.inside u = some y) : guard x ≠ guard y :=
  Lockset.race_free guard acts s s' h0 hr t u x y htu hx hy

/-- in particular never inside the same location -/
theorem never_same_location (guard : Lockset.Loc → Lockset.Lock) (acts : List Lockset.Act) (s s' : Lockset.St)
    (h0 : Lockset.Inv guard s) (hr : Lockset.run guard s acts = some s') (t u : Lockset.Tid) (x : Lockset.Loc)
    (htu : t ≠ u) (hx : s'.inside t = some x) : s'.inside u ≠ some x := by
  intro hy
  exact Lockset.race_free guard acts s s' h0 hr t u x x htu hx hy rfl

/-- BESS: the tables after any interleaving of two associations' command streams on disjoint keys are those of the
sequential composition — the outcome is that of a one-at-a-time ordering -/
theorem interleaving_is_serial {K V : Type} [DecidableEq K] (xs ys zs : List (Tab.Cmd K V)) (hi : Tab.Interleave xs ys zs)
    (hd : ∀ a ∈ xs, ∀ b ∈ ys, a.key ≠ b.key) (t : Tab.T K V) : Tab.run t zs = Tab.run (Tab.run t xs) ys :=
  Tab.interleave_eq_seq xs ys zs hi hd t

-- the discipline is satisfiable and the conclusion not vacuous: a two-thread schedule in which both threads get inside
example : ∃ s', Lockset.run (fun _ => 0) { owner := fun _ => none, inside := fun _ => none }
    [.acquire 1 0, .enter 1 7, .leave 1, .release 1 0, .acquire 2 0, .enter 2 7] = some s' ∧ s'.inside 2 = some 7 := by
  refine ⟨_, rfl, rfl⟩
-- and an access without the guard is not a step of a disciplined program
example : Lockset.run (fun _ => 0) { owner := fun _ => none, inside := fun _ => none } [.acquire 1 0, .enter 2 7] = none := rfl

/-! ### at the level of the agent's handlers (BESS agent model): the store of another association is never touched -/

/-- whatever association `a` sends — a Session Establishment, Modification or Deletion (accepted or refused at any point), a report
answered "context not found" — and however `a` ends (release, timeout, heartbeat failure, stop), the record the agent holds for any
OTHER association `a'` (its node ID, PFD table and every stored session with all rules) is exactly what it was -/
theorem other_associations_store_untouched (cfg : Agent.Cfg) (w : Agent.World) (a a' : Nat) (h : a' ≠ a) :
    (∀ lseid r, (Agent.establish cfg w a lseid r).1.conn a' = w.conn a') ∧
    (∀ r, (Agent.modify cfg w a r).world.conn a' = w.conn a') ∧
    (∀ seid, (Agent.deleteSession cfg w a seid).1.conn a' = w.conn a') ∧
    (∀ seid, (Agent.reportContextNotFound cfg w a seid).conn a' = w.conn a') ∧
    (Agent.shutdownConn cfg w a).conn a' = w.conn a' :=
  ⟨fun l r => Agent.stepReq_local cfg w (.est a l r) a' h, fun r => Agent.stepReq_local cfg w (.mod a r) a' h,
   fun s => Agent.stepReq_local cfg w (.del a s) a' h, fun s => Agent.stepReq_local cfg w (.report a s) a' h,
   Agent.stepReq_local cfg w (.shutdown a) a' h⟩

/-- lifted to histories: whatever the OTHER associations send, in any number and order (establishments, modifications with any mix
of IEs, deletions, PFD updates, reports, their own setup and ending — each accepted or refused), the record of association `a'` is
what it was. Serial histories only: that concurrent handlers behave like some serial order is what the lock facts and the
race-detector runs are for. -/
theorem foreign_requests_never_touch_an_association (cfg : Agent.Cfg) (a' : Nat) (qs : List Agent.Req) (w : Agent.World)
    (h : ∀ q ∈ qs, a' ≠ q.by) : (qs.foldl (Agent.stepReq cfg) w).conn a' = w.conn a' :=
  Agent.foreign_history_keeps_record cfg a' qs w h

end C11
