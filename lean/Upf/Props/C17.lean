import Upf.Proofs.PortProduct
/-!
# C17 — Port ranges are expanded exactly or refused

Property theorems only; lemmas live in `Upf/Proofs`. `PR` is a `(low, high)` pair of `BitVec 16`, so
every statement below quantifies over all 2^32 ranges; nothing is enumerated.
`Tern.asTrivial`, `Tern.asComplex`, `Tern.cartesian` transcribe `asTrivialTernaryMatch`,
`asComplexTernaryMatches` and `CreatePortRangeCartesianProduct` of `pfcpiface/parse_pdr.go`.
-/
namespace Props.C17
open Tern

/-- a single-rule conversion, when accepted, matches exactly the denoted ports -/
theorem trivial_cover (pr : PR) (r : Rule) (h : asTrivial pr = some r) (p : U16) :
    r.matches p ↔ pr.denotes p := Tern.trivial_cover pr r h p

/-- exact-match strategy: accepted ⇒ the rules together match exactly the denoted ports -/
theorem exact_cover (pr : PR) (rs : List Rule) (h : asComplex .exact pr = some rs) (p : U16) :
    (∃ r ∈ rs, r.matches p) ↔ pr.denotes p := Tern.complex_cover .exact pr rs h p

/-- ternary strategy: never refused, and the rules together match exactly the denoted ports -/
theorem ternary_cover (pr : PR) (rs : List Rule) (h : asComplex .ternary pr = some rs) (p : U16) :
    (∃ r ∈ rs, r.matches p) ↔ pr.denotes p := Tern.complex_cover .ternary pr rs h p

/-- the raw ternary loop, for every low/high (also inverted ones, which denote nothing) -/
theorem ternary_loop_cover (low high p : U16) :
    (∃ r ∈ ternary low high, r.matches p) ↔ (low.toNat ≤ p.toNat ∧ p.toNat ≤ high.toNat) :=
  Tern.ternary_cover low high p

/-- an accepted pair: some entry matches (sp, dp) iff sp is in the first range and dp in the second -/
theorem product_cover (s d : PR) (rs : List Rule2) (h : cartesian s d = some rs) (sp dp : U16) :
    (∃ r ∈ rs, r.matches sp dp) ↔ (s.denotes sp ∧ d.denotes dp) := Tern.product_cover s d rs h sp dp

/-- a wildcard rule appears only for 0-65535 or the zero value 0-0 -/
theorem wildcard_only_full (st : Strategy) (pr : PR) (rs : List Rule) (h : asComplex st pr = some rs)
    (r : Rule) (hr : r ∈ rs) (hm : r.mask = 0#16) :
    (pr.low = 0#16 ∧ pr.high = 0xFFFF#16) ∨ (pr.low = 0#16 ∧ pr.high = 0#16) :=
  Tern.complex_wildcard_only_full st pr rs h r hr hm

/-- refused exactly when both sides are true ranges, or the single true range is wider than 100 -/
theorem refused_iff (s d : PR) : cartesian s d = none ↔
    ((s.isRange ∧ d.isRange) ∨ (s.isRange ∧ s.width > 100#16) ∨ (d.isRange ∧ d.width > 100#16)) :=
  Tern.refused_iff s d

/-- an inverted `lo-hi` port token is refused -/
theorem parsePort_inverted (a b : String) (lo hi : U16) (ha : parseU16 a = some lo) (hb : parseU16 b = some hi)
    (h : lo > hi) : parsePortParts [a, b] = none := by
  simp [parsePortParts, ha, hb, h]

/-- an accepted token is kept as written (no silent conversion to the zero value) -/
theorem parsePort_kept (a b : String) (lo hi : U16) (ha : parseU16 a = some lo) (hb : parseU16 b = some hi)
    (h : ¬ lo > hi) : parsePortParts [a, b] = some ⟨lo, hi⟩ := by
  simp [parsePortParts, ha, hb, h, newRange]

-- non-vacuity: the hypotheses are met by concrete, non-trivial ranges
example : asComplex .ternary ⟨1#16, 65534#16⟩ ≠ none ∧ (asComplex .ternary ⟨1#16, 65534#16⟩).map List.length = some 30 := by decide +kernel
example : (asComplex .exact ⟨1000#16, 1099#16⟩).map List.length = some 100 ∧ asComplex .exact ⟨1000#16, 1100#16⟩ = none := by decide
example : (cartesian ⟨10#16, 12#16⟩ ⟨80#16, 80#16⟩).map List.length = some 3 := by decide
example : cartesian ⟨10#16, 12#16⟩ ⟨80#16, 81#16⟩ = none := by decide

end Props.C17
