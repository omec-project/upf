import Upf.Proofs.Life
import Upf.Gen.Life
import Upf.Gen.Consts
/-!
# C10 — Associations end cleanly and the agent always stops

`Life` is an interleaving transition system: a node process and, per association, any number of goroutines that may call
`Shutdown` (release request, read timeout, heartbeat failure, cancelled context), with Shutdown's body at
channel-operation granularity (close `shutdown`, cancel heartbeat, delete sessions one by one, send on `pConnDone`,
close the socket), the node's receive / close-listener / close-channel / exit steps, and the two ways Go panics here
(close of a closed channel, send on a closed channel). It is parameterised by two structural facts that are REGENERATED
from conn.go / node.go on every run. Statements hold for any number of associations and every interleaving.
-/
namespace Props.C10
open Life

/-- T1: the facts as extracted from the current sources -/
def facts : Facts := { guarded := Gen.Life.shutdownGuarded, waits := Gen.Life.nodeWaits }

theorem facts_hold : facts.guarded = true ∧ facts.waits = true := by decide

/-- no interleaving of triggers, Shutdown steps and node steps — for any number of associations — panics
(no double close, no send on a closed channel) -/
theorem no_panic (acts : List Act) (s' : St) (h : run facts init acts = some s') : s'.panicked = false :=
  Life.safe facts facts_hold.1 facts_hold.2 acts init s' inv_init h

/-- the sessions of an existing association are handed to the datapath for deletion without loss or repetition:
at every step, what was deleted plus what is still to delete stays the same list -/
theorem deleted_once (s s' : St) (act : Act) (a : Nat) (hs : step facts s act = some s')
    (hex : (s.conns a).exists_ = true) :
    (s'.conns a).deleted ++ (s'.conns a).sessions = (s.conns a).deleted ++ (s.conns a).sessions :=
  ledger_const facts s s' act a hs hex

/-- without the once-guard the two-trigger schedule panics: the guard is what the theorem rests on -/
theorem unguarded_panics :
    (run { guarded := false, waits := true } init
      [.newConn 0 [], .trigger 0, .trigger 0, .sd 0 0, .sd 0 1]).map (·.panicked) = some true := by
  simp [run, step, init, upd]

/-- the completion channel's capacity the model assumes is the code's -/
theorem done_capacity : Gen.Consts.pConnDoneCap = 100 := by decide

end Props.C10
