import Upf.Proofs.BessEnd
import Upf.Proofs.History
/-!
# C05 — Ending a session reclaims everything it ever acquired (BESS part)

`Agent.releaseRes` transcribes what `RemoveSession` gives back; `Agent.dropSession` / `deleteSession` /
`shutdownConn` / `reportContextNotFound` are the ways a session ends; refusals during establishment go through the same
release. Statements hold for every world and request.
-/
namespace Props.C05
open Agent

/-- the pool invariant of C06 (free ++ held is a permutation of the pool, no session twice) survives every establishment —
accepted, or refused at any point after it had acquired an address or TEIDs -/
theorem pool_conserved_establish (base : List Nat) (cfg : Cfg) (w : World) (a lseid : Nat) (r : EstReq)
    (h : PoolInv base w.pool) : PoolInv base (establish cfg w a lseid r).1.pool := (establish_pool cfg w a lseid r).inv base h

/-- … and every deletion -/
theorem pool_conserved_delete (base : List Nat) (cfg : Cfg) (w : World) (a seid : Nat)
    (h : PoolInv base w.pool) : PoolInv base (deleteSession cfg w a seid).1.pool := stepReq_poolInv base cfg w (.del a seid) h

/-- after the release the session's SEID holds no address any more -/
theorem address_returned (pl : Pool.P) (g : Teid.G) (lseid : Nat) (pdrs : List Pdr) (hk : (pl.inv.map (·.1)).Nodup) :
    match (releaseRes (some pl) g lseid pdrs).1 with
    | some pl' => Pool.lookup pl' lseid = none
    | none => False := freeAddr_frees pl lseid

/-- a released TEID is no longer marked used -/
theorem teid_returned (g : Teid.G) (id : Nat) (h : 1 ≤ id) : (Teid.free g id).used (id - 1) = false := by
  unfold Teid.free
  rw [if_neg (by omega)]
  simp

/-- an accepted deletion drops exactly the session's record from its association -/
theorem record_dropped (cfg : Cfg) (w : World) (a seid : Nat) (s : Session)
    (h : (w.conn a).sessions.find? (·.lseid = seid) = some s) :
    ((deleteSession cfg w a seid).1.conn a).sessions = (w.conn a).sessions.filter (·.lseid ≠ seid) := by
  rw [deleteSession_world, reportContextNotFound_eq, h, World.conn_setL]

/-- an association that ends forgets all its sessions (release, read timeout, heartbeat failure) -/
theorem association_forgotten (cfg : Cfg) (w : World) (a : Nat) :
    ((shutdownConn cfg w a).conns.find? (·.1 = a)) = none := by
  rw [shutdownConn_eq]
  apply List.find?_eq_none.mpr
  intro x hx
  have := (List.mem_filter.mp hx).2
  simpa using this

/-- attach / detach on BESS: an accepted establishment followed by the deletion of that session leaves every lookup table as it
was before the session existed — for every request, world and configuration — whenever the session's SEID is new on the
association and its rules' keys were not in use (distinct live rules have distinct keys). No number of attach/detach cycles
grows a table. -/
theorem attach_detach_restores_tables (cfg : Cfg) (w : World) (a lseid : Nat) (r : EstReq)
    (h : (establish cfg w a lseid r).2.upSeid.isSome)
    (hnew : ∀ x ∈ (w.conn a).sessions, x.lseid ≠ lseid)
    (hfresh : ∀ s : Session, (establish cfg w a lseid r).1.tables = sendAdd cfg w.tables s.pdrs s.fars s.qers →
      (∀ k ∈ (pdrKV s.pdrs).map (·.1), k ∉ w.tables.pdr.map (·.1)) ∧ (∀ k ∈ (farKV s.fars).map (·.1), k ∉ w.tables.far.map (·.1)) ∧
      (∀ k ∈ (appQerKV cfg s.qers).map (·.1), k ∉ w.tables.appQer.map (·.1)) ∧
      (∀ k ∈ (sessQerKV cfg s.qers).map (·.1), k ∉ w.tables.sessQer.map (·.1))) :
    (deleteSession cfg (establish cfg w a lseid r).1 a lseid).1.tables = w.tables :=
  establish_then_delete cfg w a lseid r h hnew hfresh

/-- Session Deletion sends the deletion of the stored rules: nothing under one of the session's keys remains in any table -/
theorem deleted_session_leaves_no_key (cfg : Cfg) (w : World) (a seid : Nat) (s : Session)
    (h : (w.conn a).sessions.find? (·.lseid = seid) = some s) (e : String × String) :
    (e.1 ∈ (pdrKV s.pdrs).map (·.1) → e ∉ (deleteSession cfg w a seid).1.tables.pdr) ∧
    (e.1 ∈ (farKV s.fars).map (·.1) → e ∉ (deleteSession cfg w a seid).1.tables.far) ∧
    (e.1 ∈ (appQerKV cfg s.qers).map (·.1) → e ∉ (deleteSession cfg w a seid).1.tables.appQer) ∧
    (e.1 ∈ (sessQerKV cfg s.qers).map (·.1) → e ∉ (deleteSession cfg w a seid).1.tables.sessQer) := by
  rw [deleteSession_tables cfg w a seid s h]
  exact ⟨Table.not_mem_without, Table.not_mem_without, Table.not_mem_without, Table.not_mem_without⟩


/-- Association Release, read timeout, heartbeat failure (`Shutdown`): afterwards no lookup table has an entry under a key of any
rule of any session of the association, and nothing was added -/
theorem released_association_leaves_no_key (cfg : Cfg) (w : World) (a : Nat) (s : Session) (hs : s ∈ (w.conn a).sessions)
    (m k : String) (hk : (m, k) ∈ s.keys cfg) : ¬ (shutdownConn cfg w a).tables.has m k :=
  shutdown_leaves_no_key cfg w a s hs m k hk
theorem release_adds_nothing (cfg : Cfg) (w : World) (a : Nat) (m k : String) (h : (shutdownConn cfg w a).tables.has m k) :
    w.tables.has m k := shutdown_adds_nothing cfg w a m k h

/-- Session Report Response "session context not found" -/
theorem reported_unknown_session_leaves_no_key (cfg : Cfg) (w : World) (a seid : Nat) (s : Session)
    (h : (w.conn a).sessions.find? (·.lseid = seid) = some s) (m k : String) (hk : (m, k) ∈ s.keys cfg) :
    ¬ (reportContextNotFound cfg w a seid).tables.has m k :=
  reportContextNotFound_leaves_no_key cfg w a seid s h m k hk


-- non-vacuity: a session holding address 5 and TEID 3 gives both back
example : (match (releaseRes (some { free := [6], inv := [(77, 5)] }) { offset := 3, used := fun x => x == 2 } 77 [{ chooseTeid := true, tunnelTEID := 3 }]) with
    | (some pl, g) => (pl.free, pl.inv, g.used 2)
    | _ => ([], [], true)) = ([6, 5], [], false) := by decide

/-! ### along every history (BESS agent model, any number of associations; `Agent.inv_teid_run`) -/

/-- **no TEID and no table entry is ever leaked**: from start-up on, after every request of every history in the envelope
(establishments accepted or refused at any point, deletions, reports "context not found", association endings, FAR-updating and rule-removing modifications), a TEID is in use
in the allocator only if a stored session's PDR holds it, and a key is present in a lookup table only if a stored session has it -/
theorem nothing_leaks_along_every_history (cfg : Cfg) (pool : Option Pool.P) (g : Teid.G) (hg : g.offset < M)
    (hfresh : ∀ x, g.used x = false) (evs : List Ev) (henv : EnvOK cfg { pool := pool, teid := g } evs) :
    let w := evs.foldl (stepEv cfg) { pool := pool, teid := g }
    (∀ x, w.teid.used x = true → x + 1 ∈ chosen w) ∧
    (∀ X k v, (w.tables.tab X).get k = some v → ∃ s ∈ allSessions w, k ∈ s.keysOf cfg X) := by
  have h := inv_teid_run cfg evs { pool := pool, teid := g } (Inv.start cfg pool g) (FarWf.start pool g)
    (TeidInv.start pool g hg hfresh) henv
  refine ⟨fun _ => h.2.held.mem_of_used, fun X k v hv => ?_⟩
  obtain ⟨s, hs, hl⟩ := (h.1.img X k v).mp hv
  exact ⟨s, hs, key_of_lastVal hl⟩

/-- … so once the last session has ended — however each of them ended — no TEID is in use and the four lookup tables are empty -/
theorem all_ended_all_returned (cfg : Cfg) (pool : Option Pool.P) (g : Teid.G) (hg : g.offset < M)
    (hfresh : ∀ x, g.used x = false) (evs : List Ev) (henv : EnvOK cfg { pool := pool, teid := g } evs)
    (hnone : allSessions (evs.foldl (stepEv cfg) { pool := pool, teid := g }) = []) :
    (∀ x, (evs.foldl (stepEv cfg) { pool := pool, teid := g }).teid.used x = false) ∧
    (∀ X k, ((evs.foldl (stepEv cfg) { pool := pool, teid := g }).tables.tab X).get k = none) := by
  have h := nothing_leaks_along_every_history cfg pool g hg hfresh evs henv
  refine ⟨fun x => ?_, fun X k => ?_⟩
  · cases hu : (evs.foldl (stepEv cfg) { pool := pool, teid := g }).teid.used x with
    | false => rfl
    | true =>
      have := h.1 x hu
      simp [chosen, hnone] at this
  · cases hv : ((evs.foldl (stepEv cfg) { pool := pool, teid := g }).tables.tab X).get k with
    | none => rfl
    | some v =>
      obtain ⟨s, hs, _⟩ := h.2 X k v hv
      rw [hnone] at hs; cases hs

/-- **no UE address is ever leaked**: along every history from the freshly built pool, an address is held only under the SEID of a stored
session; once no session is left, every configured address is free again -/
theorem addresses_all_returned (base : List Nat) (hb : base.Nodup) (cfg : Cfg) (g : Teid.G) (evs : List Ev)
    (henv : EnvOK cfg { pool := some { free := base, inv := [] }, teid := g } evs)
    (hnone : allSessions (evs.foldl (stepEv cfg) { pool := some { free := base, inv := [] }, teid := g }) = [])
    (p : Pool.P) (hp : (evs.foldl (stepEv cfg) { pool := some { free := base, inv := [] }, teid := g }).pool = some p) :
    p.inv = [] ∧ p.free.Perm base := by
  have h := pool_run base cfg evs { pool := some { free := base, inv := [] }, teid := g } (Inv.start cfg _ g) (FarWf.start _ g) henv
    (PoolInv.start base hb) (Owned.start base g)
  rw [hp] at h
  have hi : p.inv = [] := by
    cases hi : p.inv with
    | nil => rfl
    | cons e rest =>
      have := h.2 e.1 (by simp [poolKeys, hp, hi])
      rw [hnone] at this
      obtain ⟨s, hs, _⟩ := this; cases hs
  refine ⟨hi, ?_⟩
  have hperm := h.1.perm
  simpa [hi] using hperm

/-- **no envelope**: in every state of the agent model, whatever accepted or refused requests preceded, a Session Deletion of a stored
session leaves its SEID without UE address and every TEID the UP chose for one of its stored PDRs free again -/
theorem deletion_returns_address_and_teids (cfg : Agent.Cfg) (w : Agent.World) (a seid : Nat) (s : Agent.Session)
    (hf : (w.conn a).sessions.find? (·.lseid = seid) = some s) :
    s.lseid ∉ Agent.poolKeys (Agent.deleteSession cfg w a seid).1.pool ∧
    ∀ p ∈ s.pdrs, p.chooseTeid = true → 1 ≤ p.tunnelTEID →
      (Agent.deleteSession cfg w a seid).1.teid.used (p.tunnelTEID - 1) = false :=
  Agent.deletion_returns_address_and_teids cfg w a seid s hf

/-- the same for the other ways a session ends, again in every state: a Session Report answered "context not found" … -/
theorem report_returns_address_and_teids (cfg : Agent.Cfg) (w : Agent.World) (a seid : Nat) (s : Agent.Session)
    (hf : (w.conn a).sessions.find? (·.lseid = seid) = some s) :
    s.lseid ∉ Agent.poolKeys (Agent.reportContextNotFound cfg w a seid).pool ∧
    ∀ p ∈ s.pdrs, p.chooseTeid = true → 1 ≤ p.tunnelTEID →
      (Agent.reportContextNotFound cfg w a seid).teid.used (p.tunnelTEID - 1) = false :=
  Agent.report_returns_address_and_teids cfg w a seid s hf

/-- … and the ending of the association (release, read timeout, heartbeat failure, stop), for every session it holds -/
theorem association_ending_returns_addresses_and_teids (cfg : Agent.Cfg) (w : Agent.World) (a : Nat) (s : Agent.Session)
    (hs : s ∈ (w.conn a).sessions) :
    s.lseid ∉ Agent.poolKeys (Agent.shutdownConn cfg w a).pool ∧
    ∀ p ∈ s.pdrs, p.chooseTeid = true → 1 ≤ p.tunnelTEID → (Agent.shutdownConn cfg w a).teid.used (p.tunnelTEID - 1) = false :=
  Agent.shutdown_returns_addresses_and_teids cfg w a s hs

end Props.C05
