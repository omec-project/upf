import Upf.Proofs.Denote
import Upf.Proofs.Ref
import Upf.Proofs.Tab
import Upf.Proofs.BessEnd
import Upf.Proofs.ModMix
import Upf.Proofs.GenEqAgent
/-!
# C03 — BESS tables are exactly the image of the live sessions' rules

Three layers.
1. Packet level (`Tern.entries_denote`): the pdrLookup entries written for a PDR classify exactly the packets the
   PDR denotes — for ALL packets of the eight match fields and all PDRs whose port pair is accepted.
2. Table level (`Ref`, `Tab`): on keyed tables with upsert/delete (the semantics of the lookup modules), the commands of
   an establishment / a deletion turn the image of the stored sessions into the image of the new store; command
   streams on disjoint keys commute, so the goroutine fan-out of bess.go does not matter.
3. Agent level (`Agent.establish`, `Agent.modify`, `Agent.deleteSession`, `Agent.image`): the executable model of the
   handlers, tied to the real agent by trace acceptance; `Agent.image` is the specification the oracle evaluates.
   The refinement of layer 2 is proved on the reduced table model (`Ref`: FAR table); on `Agent`, with the real key
   strings of all four tables, what is proved is "delete key = add key" for every rule set (`delete_key_is_add_key`),
   what an accepted establishment and a deletion write (`establishment_upserts_its_rules`,
   `deletion_removes_only_the_sessions_keys`), and that entries of other sessions are untouched — the full image
   refinement over modifications is decided per observed history (it is false of the code for key-changing updates and
   re-labelled session QERs: open findings) — partial.
-/
namespace Props.C03
open Tern

/-- a packet is classified to the PDR by some written entry iff it matches the PDR's source interface, tunnel
endpoint, UE/remote addresses, ports and protocol — all packets, symbolic -/
theorem entries_denote (p : PdrM) (es : List Entry) (h : pdrEntries p = some es) (k : Pkt) :
    (∃ e ∈ es, e.matches k) ↔ p.denotes k := Tern.entries_denote p es h k

/-- priorities order PDRs as their precedence does (lower precedence value = higher priority), without wrap-around -/
theorem priority_order (a b : BitVec 32) (h : a.toNat < b.toNat) :
    (0xFFFFFFFF#32 - b).toNat < (0xFFFFFFFF#32 - a).toNat := Tern.priority_order a b h

/-- the agent model writes one entry per rule of the same port product, priority `MaxUint32 − precedence` -/
theorem agent_entries_from_product (p : Agent.Pdr) :
    (Agent.pdrEntries p).map List.length = (cartesian p.af.srcPorts p.af.dstPorts).map List.length := by
  unfold Agent.pdrEntries
  cases cartesian p.af.srcPorts p.af.dstPorts <;> simp

/-- establishment on the table model: the add commands turn the image of the store into the image of the store plus the session -/
theorem est_refines (store : List Ref.Sess) (seid : Nat) (fars : List Ref.Far)
    (hfresh : ∀ s ∈ store, s.seid ≠ seid) (hnd : (fars.map (·.id)).Nodup) :
    Tab.run (Ref.image store) (Ref.addCmds seid fars) = Ref.image (⟨seid, fars⟩ :: store) :=
  Ref.est_refines store seid fars hfresh hnd

/-- deletion on the table model: the delete commands remove exactly the session's entries -/
theorem del_refines (store : List Ref.Sess) (s : Ref.Sess) (hfresh : ∀ x ∈ store, x.seid ≠ s.seid) :
    Tab.run (Ref.image (s :: store)) (Ref.delCmds s.seid s.fars) = Ref.image store :=
  Ref.del_refines store s hfresh

/-- commands on different keys commute (the per-rule goroutines may run in any order) -/
theorem disjoint_keys_commute {K V : Type} [DecidableEq K] (a b : Tab.Cmd K V) (h : a.key ≠ b.key) (t : Tab.T K V) :
    Tab.apply (Tab.apply t a) b = Tab.apply (Tab.apply t b) a := Tab.commute a b h t

/-- a request naming an unknown session is rejected and writes nothing (agent model) -/
theorem unknown_session_writes_nothing (cfg : Agent.Cfg) (w : Agent.World) (a seid : Nat)
    (h : (w.conn a).sessions.find? (·.lseid = seid) = none) :
    (Agent.deleteSession cfg w a seid).1 = w ∧ (Agent.deleteSession cfg w a seid).2.cause = Agent.causeRejected ∧
    (Agent.modify cfg w a { seid := seid }).world = w ∧ (Agent.modify cfg w a { seid := seid }).reply.cause = Agent.causeRejected := by
  rw [Agent.deleteSession_eq, Agent.reportContextNotFound_eq, h, Agent.modify_eq_unknown cfg (r := { seid := seid }) h]
  exact ⟨rfl, rfl, rfl, rfl⟩

/-- an establishment without matching association is rejected with "no established association" and writes nothing -/
theorem no_association_writes_nothing (cfg : Agent.Cfg) (w : Agent.World) (a lseid : Nat) (r : Agent.EstReq)
    (h : r.nodeID ≠ (w.conn a).remoteNode) :
    (Agent.establish cfg w a lseid r).1 = w ∧ (Agent.establish cfg w a lseid r).2.cause = Agent.causeNoAssoc := by
  rw [Agent.establish_noAssoc cfg w a lseid r h]; exact ⟨rfl, rfl⟩

/-! ### agent level, the four lookup tables with their real key strings -/

/-- **delete key = add key**, all rule sets: after `SendMsgToUPF(add)` and `SendMsgToUPF(del)` of the same stored rules
every lookup table is the table before, less the keys of those rules — nothing else is added, changed or removed -/
theorem delete_key_is_add_key (cfg : Agent.Cfg) (t : Agent.Tables) (pdrs : List Agent.Pdr) (fars : List Agent.Far) (qers : List Agent.Qer) :
    Agent.sendDel cfg (Agent.sendAdd cfg t pdrs fars qers) pdrs fars qers =
      { pdr := t.pdr.without ((Agent.pdrKV pdrs).map (·.1)), far := t.far.without ((Agent.farKV fars).map (·.1)),
        appQer := t.appQer.without ((Agent.appQerKV cfg qers).map (·.1)),
        sessQer := t.sessQer.without ((Agent.sessQerKV cfg qers).map (·.1)) } :=
  Agent.sendDel_sendAdd cfg t pdrs fars qers

/-- an accepted establishment appends the session to the association's store and upserts exactly its rules -/
theorem establishment_upserts_its_rules (cfg : Agent.Cfg) (w : Agent.World) (a lseid : Nat) (r : Agent.EstReq)
    (h : (Agent.establish cfg w a lseid r).2.upSeid.isSome) :
    ∃ s : Agent.Session, s.lseid = lseid ∧
      (Agent.establish cfg w a lseid r).1.tables = Agent.sendAdd cfg w.tables s.pdrs s.fars s.qers ∧
      ((Agent.establish cfg w a lseid r).1.conn a).sessions = (w.conn a).sessions ++ [s] :=
  Agent.establish_tables cfg w a lseid r h

/-- deleting a known session removes exactly the keys of its stored rules from each table -/
theorem deletion_removes_only_the_sessions_keys (cfg : Agent.Cfg) (w : Agent.World) (a seid : Nat) (s : Agent.Session)
    (h : (w.conn a).sessions.find? (·.lseid = seid) = some s) :
    (Agent.deleteSession cfg w a seid).1.tables =
      { pdr := w.tables.pdr.without ((Agent.pdrKV s.pdrs).map (·.1)), far := w.tables.far.without ((Agent.farKV s.fars).map (·.1)),
        appQer := w.tables.appQer.without ((Agent.appQerKV cfg s.qers).map (·.1)),
        sessQer := w.tables.sessQer.without ((Agent.sessQerKV cfg s.qers).map (·.1)) } :=
  Agent.deleteSession_tables cfg w a seid s h

/-- … so an entry under any other key (another session's rule) is still there, unchanged, and nothing remains under a deleted key -/
theorem other_entries_untouched {t : Agent.Table} {K : List String} {e : String × String} (he : e ∈ t) (hk : e.1 ∉ K) : e ∈ t.without K :=
  Agent.Table.mem_without.mpr ⟨he, hk⟩
theorem deleted_keys_gone {t : Agent.Table} {K : List String} {e : String × String} (hk : e.1 ∈ K) : e ∉ t.without K :=
  Agent.Table.not_mem_without hk

/-! non-vacuity: a concrete establishment (uplink + downlink PDR, two FARs, one QER) on an association is accepted, writes two
pdrLookup entries, and its deletion leaves the tables empty again -/
def exCfg : Agent.Cfg := { accessIP := 0xC6120101, coreIP := 0x7F000001, ueAlloc := false, endMarker := false, qci := [] }
def exW : Agent.World := { conns := [(0, { remoteNode := "smf" })] }
def exP1 : Agent.PdrIE := { id := 1, prec := 100, srcIface := some 0, fteid := some (false, 1000, 0xC6120101), ueip := some (2, 0x0A3C0001), ohr := some 0, farID := 1, qerIDs := [1] }
def exP2 : Agent.PdrIE := { id := 2, prec := 100, srcIface := some 1, ueip := some (2, 0x0A3C0001), farID := 2, qerIDs := [1] }
def exF1 : Agent.FarIE := { id := 1, action := 2, fwd := some { dst := some 1 } }
def exF2 : Agent.FarIE := { id := 2, action := 2, fwd := some { dst := some 0, ohc := some (1001, 0xC6120109) } }
def exReq : Agent.EstReq := { nodeID := "smf", cpSeid := 5001, cpIP := 167772161, pdrs := [exP1, exP2], fars := [exF1, exF2], qers := [{ id := 1, qfi := 9, mbrUL := 1000, mbrDL := 2000 }] }
example : (Agent.establish exCfg exW 0 77 exReq).2.upSeid = some 77 := by decide +kernel
example : (Agent.establish exCfg exW 0 77 exReq).1.tables.pdr.length = 2 ∧ (Agent.establish exCfg exW 0 77 exReq).1.tables.far.length = 2 := by decide +kernel
example : (Agent.deleteSession exCfg (Agent.establish exCfg exW 0 77 exReq).1 0 77).1.tables = exW.tables := by decide +kernel

-- non-vacuity: a PDR with a three-port source range has three entries
example : (Agent.pdrEntries { af := { srcPorts := ⟨80#16, 82#16⟩, dstPorts := ⟨0#16, 65535#16⟩ } }).map List.length = some 3 := by decide

open Agent in
section
/-! ### agent level: the tables are the image of the store along every history (establishment, deletion, report
"context not found", association ending, association setup, PFD update — any number of associations and sessions).
`Agent.Inv` = association indices distinct ∧ stored sessions pairwise disjoint in SEID and keys ∧ `ImgOf` (under every
key of each lookup table lies exactly the value the owning session's rules denote; nothing under any other key). The
envelope `EnvOK` is the one of the property: a session that an establishment stores has a SEID and match keys no stored
session has (unambiguous rule sets; C07 gives the SEID part per association). Session Modifications that carry Update FAR IEs only
(handover, idle / active transitions, action changes), Remove PDR / FAR / QER IEs only, or Create PDR / FAR / QER IEs only are inside the theorem, for sessions whose
session-QER marking is stable (and, for removals, whose rules have pairwise different keys);
modifications that mix these kinds of IEs are reduced to them (`mixed_modification_is_three_messages`); modifications that update PDRs or QERs are outside it (open findings: key-changing Update PDR, QER relabelling)
and stay decided per observed history. -/

theorem image_after_establishment (cfg : Cfg) (w : World) (a lseid : Nat) (r : EstReq) (hI : Inv cfg w)
    (henv : (establish cfg w a lseid r).2.upSeid.isSome → ∀ s : Session, newSession cfg w a lseid r = some s → ∀ s' ∈ allSessions w, Disj cfg s s') :
    Inv cfg (establish cfg w a lseid r).1 := establish_inv cfg w a lseid r hI henv

theorem image_after_deletion (cfg : Cfg) (w : World) (a seid : Nat) (hI : Inv cfg w) : Inv cfg (deleteSession cfg w a seid).1 :=
  hI.ends (stepReq_ends cfg w (.del a seid) hI.storeWf rfl)

theorem image_after_report_context_not_found (cfg : Cfg) (w : World) (a seid : Nat) (hI : Inv cfg w) :
    Inv cfg (reportContextNotFound cfg w a seid) := hI.ends (stepReq_ends cfg w (.report a seid) hI.storeWf rfl)

theorem image_after_association_end (cfg : Cfg) (w : World) (a : Nat) (hI : Inv cfg w) : Inv cfg (shutdownConn cfg w a) :=
  hI.ends (stepReq_ends cfg w (.shutdown a) hI.storeWf rfl)

/-- a refused establishment — wrong node ID, a Create PDR or Create FAR that does not parse, no TEID or address left — writes nothing to the
datapath and stores nothing (what it had acquired is given back: `establishment_keeps_chosen_teids_distinct`, C05) -/
theorem refused_establishment_writes_nothing (cfg : Cfg) (w : World) (a lseid : Nat) (r : EstReq)
    (h : (establish cfg w a lseid r).2.upSeid = none) :
    (establish cfg w a lseid r).1.tables = w.tables ∧ (establish cfg w a lseid r).1.conns = w.conns := by
  rcases establish_cases cfg w a lseid r with e | ⟨_, e⟩ | ⟨_, _, _, _, e⟩ <;> rw [e] at h ⊢
  · exact ⟨rfl, rfl⟩
  · exact ⟨rfl, rfl⟩
  · cases h

/-- a modification that only updates FARs — accepted, or refused because an Update FAR does not parse — upserts farLookup entries under
the keys the session already has (the key determines the FAR ID: `farKey_inj`), so the tables stay the image of the store -/
theorem image_after_far_update (cfg : Cfg) (w : World) (a : Nat) (r : ModReq) (s0 : Session) (hI : Inv cfg w) (hr : FarOnly r)
    (h : (w.conn a).sessions.find? (·.lseid = r.seid) = some s0)
    (hstable : markSessionQer s0.pdrs s0.qers = (s0.qers, s0.pdrs))
    (hwf : ∀ q ∈ s0.fars, q.fseID = s0.lseid) : Inv cfg (modify cfg w a r).world := (modFar_step cfg w a r s0 hI hr h hstable hwf).1

/-- a modification that only removes rules (Remove PDR / FAR / QER) — accepted, or refused because an ID is unknown — deletes the entries of
the removed rules and nothing else: the tables stay the image of the store, for a session whose rules have pairwise different keys -/
theorem image_after_removal (cfg : Cfg) (w : World) (a : Nat) (r : ModReq) (s0 : Session) (hI : Inv cfg w) (hr : RemOnly r)
    (h : (w.conn a).sessions.find? (·.lseid = r.seid) = some s0)
    (hstable : markSessionQer s0.pdrs s0.qers = (s0.qers, s0.pdrs)) (hnd : SelfNodup cfg s0) :
    Inv cfg (modify cfg w a r).world := (modRem_step cfg w a r s0 hI hr h hstable hnd).1

/-- a modification that only creates rules (Create PDR / FAR / QER) — accepted, or refused while parsing — upserts the created rules'
entries over the session's: the tables stay the image of the store, for new rule IDs and keys no other session has (`AddEnv`) -/
theorem image_after_creation (cfg : Cfg) (w : World) (a : Nat) (r : ModReq) (s0 : Session) (hI : Inv cfg w) (hW : FarWf w) (hr : AddOnly r)
    (h : (w.conn a).sessions.find? (·.lseid = r.seid) = some s0)
    (henv : ∀ cp pool1 cf, parsePdrs r.seid (fseidIPOf' r) (w.conn a).apps r.createPdrs w.pool = .ok (cp, pool1) →
      mapFars cfg r.seid (fseidIPOf' r) false r.createFars = .ok cf → AddEnv cfg w r s0 cp cf) :
    Inv cfg (modify cfg w a r).world := (modAdd_step cfg w a r s0 hI hr h henv).1

/-- **one message = three messages**: an accepted Session Modification that creates rules, updates FARs and removes rules in one message
(no Update PDR / Update QER) leaves store, tables, TEIDs and pool exactly as its create part, its Update FAR part and its remove part sent
one after the other would — so it keeps the tables the image of the store whenever the three parts are in the envelope -/
theorem mixed_modification_is_three_messages (cfg : Cfg) (w : World) (a : Nat) (r : ModReq) (s0 : Session) (hm : MixedOk cfg w a r s0) :
    (modify cfg w a r).world = [Ev.modAdd a (rAdd r), Ev.modFar a (rUpd r), Ev.modRem a (rRem r)].foldl (stepEv cfg) w := hm.world

theorem image_after_mixed_modification (cfg : Cfg) (w : World) (a : Nat) (r : ModReq) (s0 : Session) (hm : MixedOk cfg w a r s0)
    (hI : Inv cfg w) (hW : FarWf w) (henv : EnvOK cfg w [Ev.modAdd a (rAdd r), Ev.modFar a (rUpd r), Ev.modRem a (rRem r)]) :
    Inv cfg (modify cfg w a r).world := by
  rw [hm.world]; exact (inv_run cfg _ w hI hW henv).1

/-- **every FAR has one entry with what the control plane sent**: along every history in the envelope, for every stored session whose rules
have pairwise different keys, farLookup holds under the FAR's key (FAR ID, SEID) exactly the entry `addFAR` builds from the stored rule:
action (`setActionValue`), tunnel type, addresses, TEID and port -/
theorem stored_far_is_programmed (cfg : Cfg) (w : World) (hI : Inv cfg w) (s : Session) (hs : s ∈ allSessions w) (hnd : SelfNodup cfg s)
    (f : Far) (hf : f ∈ s.fars) : (w.tables.tab .far).get (farEntry f).1 = some (farEntry f).2 :=
  hI.get_of_mem hs .far (hnd .far) (List.mem_map_of_mem hf)

/-- … and every entry the PDR's port product yields lies in pdrLookup with the PDR's session, FAR, first QER, decapsulation flag and
priority `MaxUint32 − precedence` -/
theorem stored_pdr_is_programmed (cfg : Cfg) (w : World) (hI : Inv cfg w) (s : Session) (hs : s ∈ allSessions w) (hnd : SelfNodup cfg s)
    (p : Pdr) (hp : p ∈ s.pdrs) (es : List (String × String)) (hes : pdrEntries p = some es) (e : String × String) (he : e ∈ es) :
    (w.tables.tab .pdr).get e.1 = some e.2 :=
  hI.get_of_mem hs .pdr (hnd .pdr) (List.mem_flatMap.mpr ⟨p, hp, by rw [hes]; exact he⟩)

/-- what `image_after_far_update` asks of the stored FARs is an invariant, not an assumption: along every history every stored FAR carries
the SEID of its session (`parseFAR` writes it, `UpdateFAR` keeps it) -/
theorem stored_fars_carry_the_seid (cfg : Cfg) (pool : Option Pool.P) (g : Teid.G) (evs : List Ev)
    (henv : EnvOK cfg { pool := pool, teid := g } evs) : FarWf (evs.foldl (stepEv cfg) { pool := pool, teid := g }) :=
  (inv_run cfg evs _ (Inv.start cfg pool g) (FarWf.start pool g) henv).2

/-- the invariant is the statement about `Agent.image` (the specification the trace oracle evaluates): each lookup
table, read as a map, is the table obtained by installing every stored session's rules on empty tables -/
theorem invariant_is_image (cfg : Cfg) (w : World) (hI : Inv cfg w) (X : Tb) (k : String) :
    (w.tables.tab X).get k = ((image cfg w).tab X).get k := Inv.get_image cfg w hI X k

/-- **from start-up on, after every request of every history in the envelope, the four BESS lookup tables are exactly
the image of the stored sessions** -/
theorem tables_are_the_image_along_every_history (cfg : Cfg) (pool : Option Pool.P) (g : Teid.G) (evs : List Ev)
    (henv : EnvOK cfg { pool := pool, teid := g } evs) (X : Tb) (k : String) :
    ((evs.foldl (stepEv cfg) { pool := pool, teid := g }).tables.tab X).get k =
      ((image cfg (evs.foldl (stepEv cfg) { pool := pool, teid := g })).tab X).get k :=
  Inv.get_image cfg _ (inv_run cfg evs _ (Inv.start cfg pool g) (FarWf.start pool g) henv).1 X k

/-- and an ended session has left nothing: a key is present only if a stored session has it -/
theorem nothing_else_is_present (cfg : Cfg) (w : World) (hI : Inv cfg w) (X : Tb) (k v : String)
    (h : (w.tables.tab X).get k = some v) : ∃ s ∈ allSessions w, k ∈ s.keysOf cfg X := by
  obtain ⟨s, hs, hv⟩ := (hI.img X k v).mp h
  exact ⟨s, hs, key_of_lastVal hv⟩

-- non-vacuity: two sessions with different TEIDs / UE addresses on one association satisfy the envelope; a second
-- association's session too; the run installs 4 + 2 pdrLookup entries and the deletion of the first leaves 4
def exP1b : Agent.PdrIE := { exP1 with fteid := some (false, 2000, 0xC6120101), ueip := some (2, 0x0A3C0002) }
def exP2b : Agent.PdrIE := { exP2 with ueip := some (2, 0x0A3C0002) }
def exReq2 : Agent.EstReq := { exReq with cpSeid := 5002, pdrs := [exP1b, exP2b] }
def exW1 : Agent.World := (Agent.establish exCfg exW 0 77 exReq).1
-- a handover of the first session (Update FAR 2 only) is in the envelope: FAR-only, stable marking
example : FarOnly { seid := 77, updateFars := [{ exF2 with fwd := some { dst := some 0, ohc := some (2001, 0xC612010A) } }] } ∧
    (∀ s0 ∈ (exW1.conn 0).sessions, markSessionQer s0.pdrs s0.qers = (s0.qers, s0.pdrs)) := by
  refine ⟨⟨rfl, rfl, rfl, rfl, rfl, rfl, rfl, rfl⟩, ?_⟩
  decide +kernel
-- … and so is the removal of its downlink rule: the session's keys are pairwise different
example : RemOnly { seid := 77, removePdrs := [2], removeFars := [2] } ∧ (∀ s0 ∈ (exW1.conn 0).sessions, SelfNodup exCfg s0) := by
  refine ⟨⟨rfl, rfl, rfl, rfl, rfl, rfl⟩, ?_⟩
  intro s0 hs0 X
  have : ∀ s ∈ (exW1.conn 0).sessions, (s.keysOf exCfg .pdr).Nodup ∧ (s.keysOf exCfg .far).Nodup ∧ (s.keysOf exCfg .app).Nodup ∧ (s.keysOf exCfg .sess).Nodup := by
    decide +kernel
  cases X
  · exact (this s0 hs0).1
  · exact (this s0 hs0).2.1
  · exact (this s0 hs0).2.2.1
  · exact (this s0 hs0).2.2.2
example : (Agent.establish exCfg exW1 0 78 exReq2).2.cause = 1 ∧ (Agent.establish exCfg exW1 0 78 exReq2).1.tables.pdr.length = 4 := by decide +kernel
example : (allSessions exW1).length = 1 := by decide +kernel
example : ∀ s, newSession exCfg exW1 0 78 exReq2 = some s → ∀ s' ∈ allSessions exW1, Disj exCfg s s' := by
  intro s hs
  have hmem : s ∈ ((Agent.establish exCfg exW1 0 78 exReq2).1.conn 0).sessions := List.mem_of_find?_eq_some hs
  have hl : s.lseid = 78 := key_of_find? hs
  have hall : ∀ s ∈ ((Agent.establish exCfg exW1 0 78 exReq2).1.conn 0).sessions, s.lseid = 78 → ∀ s' ∈ allSessions exW1, Disj exCfg s s' := by
    decide +kernel
  exact hall s hmem hl

end

-- a creation on the first session: an uplink PDR under another TEID with its own FAR
section
open Agent
def exAddPdr : PdrIE := { id := 3, prec := 50, srcIface := some 0, fteid := some (false, 3000, 0xC6120101), ueip := some (2, 0x0A3C0001), ohr := some 0, farID := 3, qerIDs := [1] }
def exAddFar : FarIE := { id := 3, action := 2, fwd := some { dst := some 1 } }
def exAdd : ModReq := { seid := 77, createPdrs := [exAddPdr], createFars := [exAddFar] }
def exCP : List Pdr := match parsePdrs 77 0 (exW1.conn 0).apps exAdd.createPdrs exW1.pool with | .ok (cp, _) => cp | .error _ => []
def exCF : List Far := match mapFars exCfg 77 0 false exAdd.createFars with | .ok cf => cf | .error _ => []
example : exCP.length = 1 ∧ exCF.length = 1 := by decide +kernel
-- the created rules satisfy the envelope of `image_after_creation` (one stored session: no other session's keys to avoid)
example : AddOnly exAdd ∧ ∀ s0 ∈ (exW1.conn 0).sessions,
    markSessionQer (s0.pdrs ++ exCP) (s0.qers ++ createdQers exAdd) = (s0.qers ++ createdQers exAdd, s0.pdrs ++ exCP) ∧
    (∀ p ∈ exCP, ∀ q ∈ s0.pdrs, q.pdrID ≠ p.pdrID) ∧ (exCP.map (·.pdrID)).Nodup ∧ (∀ p ∈ exCP, p.chooseTeid = false) := by
  refine ⟨⟨rfl, rfl, rfl, rfl, rfl, rfl⟩, ?_⟩
  decide +kernel
-- and the modification is accepted and adds one pdrLookup entry and one FAR
example : (modify exCfg exW1 0 exAdd).reply.cause = 1 ∧ (modify exCfg exW1 0 exAdd).world.tables.pdr.length = 3 ∧
    (modify exCfg exW1 0 exAdd).world.tables.far.length = 3 := by decide +kernel
end


section
open Agent
-- one message: create the uplink rule of `exAdd`, hand FAR 2 over to another gNB, remove PDR 1 with FAR 1
def exMixFar : FarIE := { id := 2, action := 2, fwd := some { dst := some 0, ohc := some (2001, 0xC612010A) } }
def exMix : ModReq := { seid := 77, createPdrs := [exAddPdr], createFars := [exAddFar], updateFars := [exMixFar], removePdrs := [1], removeFars := [1] }
def exS0 : Session := ((exW1.conn 0).sessions.head?).getD { lseid := 0, rseid := 0 }
def exUF : List Far := match mapFars exCfg 77 0 true exMix.updateFars with | .ok uf => uf | .error _ => []
def exRP : List Pdr × List Pdr := (removeAll (·.pdrID) (exS0.pdrs ++ exCP) exMix.removePdrs).getD ([], [])
def exRF : List Far × List Far := (removeAll (·.farID) (updFars (exS0.fars ++ exCF) exUF).1 exMix.removeFars).getD ([], [])
def exRQ : List Qer × List Qer := (removeAll (·.qerID) (exS0.qers ++ createdQers exMix) exMix.removeQers).getD ([], [])
example : (modify exCfg exW1 0 exMix).reply.cause = 1 ∧ (modify exCfg exW1 0 exMix).world.tables.pdr.length = 2 ∧
    (modify exCfg exW1 0 exMix).world.tables.far.length = 2 := by decide +kernel
example : MixedOk exCfg exW1 0 exMix exS0 := by
  -- `Except` and `Pool.P` have no `DecidableEq`: that the run is `.ok` is read off `exCP`, a list of PDRs, which `decide` can evaluate
  have hpar : ∃ v, parsePdrs exMix.seid (fseidIPOf' exMix) (exW1.conn 0).apps exMix.createPdrs exW1.pool = .ok v := by
    cases h : parsePdrs exMix.seid (fseidIPOf' exMix) (exW1.conn 0).apps exMix.createPdrs exW1.pool with
    | ok v => exact ⟨v, rfl⟩
    | error e =>
      have : exCP.length = 1 := by decide +kernel
      simp [exCP, exAdd, exMix, fseidIPOf'] at this h
      simp [h] at this
  obtain ⟨v, hv⟩ := hpar
  have hcp : v.1 = exCP := by
    have h' : parsePdrs 77 0 (exW1.conn 0).apps exAdd.createPdrs exW1.pool = .ok v := hv
    simp [exCP, h']
  refine ⟨⟨rfl, rfl⟩, by decide +kernel, exCP, v.2, exCF, exUF, exRP.1, exRP.2, exRF.1, exRF.2, exRQ.1, exRQ.2, ?_, ?_, ?_, ?_⟩
  · rw [hv, ← hcp]
  · show mapFars exCfg 77 0 false exAdd.createFars = .ok exCF
    cases h : mapFars exCfg 77 0 false exAdd.createFars with
    | ok cf => simp [exCF, h]
    | error e =>
      have : exCF.length = 1 := by decide +kernel
      simp [exCF, h] at this
  · show mapFars exCfg 77 0 true exMix.updateFars = .ok exUF
    cases h : mapFars exCfg 77 0 true exMix.updateFars with
    | ok uf => simp [exUF, h]
    | error e =>
      have : exUF.length = 1 := by decide +kernel
      simp [exUF, h] at this
  · decide +kernel
end

/-! ### ties to the regenerated leaf functions (T1): the model's action encoding and allocation test ARE the Go functions -/

/-- `bess.setActionValue` (regenerated from bess.go) is the model's `actionValue`, every destination-interface and apply-action byte -/
theorem action_encoding_is_the_code (d a : BitVec 8) :
    (Gen.Leaf.bess_setActionValue d a).toNat = Agent.actionValue { dstIntf := d.toNat, applyAction := a.toNat } := Agent.actionValue_gen d a

/-- `needAllocIP` / `has2ndBit` / `has5thBit` (regenerated from parse_pdr.go / utils.go) are the model's, all 256 flag bytes -/
theorem alloc_test_is_the_code : ∀ f < 256, Gen.Leaf.needAllocIP (BitVec.ofNat 8 f) = Agent.needAllocIP f := Agent.needAllocIP_gen

end Props.C03
