import Upf.Proofs.Up4Meters
import Upf.Proofs.Up4Ids
import Upf.Proofs.Up4Counters
import Upf.Proofs.Up4Handlers
/-!
# C15 — P4 datapath IDs stay exclusive and in their own pool under write failures

Model: `Upf/Model/Up4.lean` (up4.go after the repairs recorded in known_findings.json). Everything the environment decides
is universally quantified: the cells `Pop()` hands out (`picks`) and the fate of every Write RPC (`injs`: served, failed as
a whole, one update refused with any status) — "whichever P4Runtime writes fail" is `∀ injs`.

Proved here, for every request sequence of any length and every environment:
* meter cells (both pools): a cell is never free while a recorded meter holds it, never held by two meters, never outside
  1…1023; an application-meter operation never touches the session pool nor the reverse, and a failed meter Write puts
  the popped cells back where they came from (no migration);
* an establishment or the create/update part of a modification whose datapath answered "accepted" had no failed Write
  (other than the tolerated ALREADY_EXISTS).
* tunnel-peer IDs and application IDs: the ID a recorded peer / application holds is never in the free queue, two recorded
  holders never share an ID, the queue never holds an ID twice.
* counter cells, at the plug-in's interface: the cells an establishment hands out are pairwise distinct, were free and are no
  longer free; only the counter loop of `sendCreate` takes cells and only an accepted `sendDelete` returns cells — exactly
  those of the deleted PDRs; along every history the ledger "free / left the pool and not yet returned" never has a cell on
  both sides nor twice on one (`counters_inv`).
That the cells which left the pool are the `ctrID`s of the PDRs of the stored sessions (the owners live in the handlers' state)
is decided by the correspondence run and the oracles of the acceptor (`Check/P4.lean`: `poolFindings`, `exclusiveFindings`);
it is false of the code for a PDR created by a modification (open finding) — see DESIGN.md.
-/
namespace C15
open Up4

/-- a request at the datapath interface, with what the environment will do during it -/
inductive Req
  | create (all updated : Rules)
  | update (all updated : Rules)
  | delete (del : Rules)

structure Step where
  req : Req
  picks : List Nat
  injs : List Inj

def apply (cfg : Cfg4) (c : Ctx) (s : Step) : Ctx :=
  let c := { c with picks := s.picks, injs := s.injs }
  match s.req with
  | .create all updated => (sendCreate cfg c all updated).1
  | .update all updated => (sendUpdate cfg c all updated).1
  | .delete del => (sendDelete cfg c del).1

/-- the plug-in after start-up against any switch content and any history of requests under any environment -/
def run (cfg : Cfg4) (srv : Srv) (startInjs : List Inj) (h : List Step) : Ctx := h.foldl (apply cfg) (start cfg srv startInjs).1

/-- what start-up establishes and every request keeps holds in every reachable state -/
theorem run_inv {P : St → Prop} (cfg : Cfg4) (srv : Srv) (startInjs : List Inj) (h0 : P (start cfg srv startInjs).1.st)
    (hc : ∀ c all updated, P c.st → P (sendCreate cfg c all updated).1.st)
    (hu : ∀ c all updated, P c.st → P (sendUpdate cfg c all updated).1.st)
    (hd : ∀ c del, P c.st → P (sendDelete cfg c del).1.st) (h : List Step) : P (run cfg srv startInjs h).st := by
  unfold run
  generalize (start cfg srv startInjs).1 = c at h0
  induction h generalizing c with
  | nil => exact h0
  | cons s rest ih =>
    apply ih
    unfold apply
    cases s.req with
    | create all updated => exact hc _ all updated h0
    | update all updated => exact hu _ all updated h0
    | delete del => exact hd _ del h0

/-- **the meter invariant holds in every reachable state** -/
theorem meters_inv (cfg : Cfg4) (srv : Srv) (startInjs : List Inj) (h : List Step) : MInv (run cfg srv startInjs h).st :=
  run_inv cfg srv startInjs (start_minv cfg srv startInjs) (sendCreate_minv cfg) (sendUpdate_minv cfg) (sendDelete_minv cfg) h

/-- **the tunnel-peer and application ID invariants hold in every reachable state** -/
theorem ids_inv (cfg : Cfg4) (srv : Srv) (startInjs : List Inj) (h : List Step) : IdsInv (run cfg srv startInjs h).st :=
  run_inv cfg srv startInjs (start_idsinv cfg srv startInjs) (sendCreate_idsinv cfg) (sendUpdate_idsinv cfg) (sendDelete_idsinv cfg) h

/-- a tunnel-peer ID in use is not free, and is not the ID of another peer -/
theorem peer_id_exclusive (cfg : Cfg4) (srv : Srv) (si : List Inj) (h : List Step) (tp : TP) (pr : Shared)
    (hp : mapGet (run cfg srv si h).st.peers tp = some pr) :
    pr.id ∉ (run cfg srv si h).st.peerPool ∧
    ∀ tp' pr', tp' ≠ tp → mapGet (run cfg srv si h).st.peers tp' = some pr' → pr'.id ≠ pr.id :=
  ⟨(ids_inv cfg srv si h).peers.held tp pr hp, fun tp' pr' hne hp' => (ids_inv cfg srv si h).peers.owners tp' tp pr' pr hne hp' hp⟩

/-- an application ID in use is not free, and is not the ID of another application -/
theorem app_id_exclusive (cfg : Cfg4) (srv : Srv) (si : List Inj) (h : List Step) (af : AF) (ap : AppRec)
    (hp : mapGet (run cfg srv si h).st.apps af = some ap) :
    ap.id ∉ (run cfg srv si h).st.appPool ∧
    ∀ af' ap', af' ≠ af → mapGet (run cfg srv si h).st.apps af' = some ap' → ap'.id ≠ ap.id :=
  ⟨(ids_inv cfg srv si h).apps.held af ap hp, fun af' ap' hne hp' => (ids_inv cfg srv si h).apps.owners af' af ap' ap hne hp' hp⟩

/-- never free while held: the cells of a recorded meter are not in the pool they were taken from -/
theorem held_not_free (cfg : Cfg4) (srv : Srv) (si : List Inj) (h : List Step) (key : Nat × Nat) (m : Meter)
    (hm : mapGet (run cfg srv si h).st.meters key = some m) :
    (m.kind = 1 → m.ul ∉ (run cfg srv si h).st.appFree ∧ m.dl ∉ (run cfg srv si h).st.appFree) ∧
    (m.kind = 2 → m.ul ∉ (run cfg srv si h).st.sessFree ∧ m.dl ∉ (run cfg srv si h).st.sessFree) :=
  ⟨(meters_inv cfg srv si h).appHeld key m hm, (meters_inv cfg srv si h).sessHeld key m hm⟩

/-- never two owners: two recorded meters of the same pool have no cell in common -/
theorem no_two_owners (cfg : Cfg4) (srv : Srv) (si : List Inj) (h : List Step) (k1 k2 : Nat × Nat) (m1 m2 : Meter) (hne : k1 ≠ k2)
    (h1 : mapGet (run cfg srv si h).st.meters k1 = some m1) (h2 : mapGet (run cfg srv si h).st.meters k2 = some m2)
    (hk : m1.kind = m2.kind) : m1.ul ≠ m2.ul ∧ m1.ul ≠ m2.dl ∧ m1.dl ≠ m2.ul ∧ m1.dl ≠ m2.dl :=
  (meters_inv cfg srv si h).owners k1 k2 m1 m2 hne h1 h2 hk

/-- the pools are sets (no cell is free twice), and every cell lies inside its array (C16 uses this) -/
theorem pools_nodup_in_range (cfg : Cfg4) (srv : Srv) (si : List Inj) (h : List Step) :
    (run cfg srv si h).st.appFree.Nodup ∧ (run cfg srv si h).st.sessFree.Nodup ∧
    (∀ x ∈ (run cfg srv si h).st.appFree, 1 ≤ x ∧ x < 1024) ∧ (∀ x ∈ (run cfg srv si h).st.sessFree, 1 ≤ x ∧ x < 1024) ∧
    (∀ k m, mapGet (run cfg srv si h).st.meters k = some m → 1 ≤ m.ul ∧ m.ul < 1024 ∧ 1 ≤ m.dl ∧ m.dl < 1024) :=
  let i := meters_inv cfg srv si h
  ⟨i.appNd, i.sessNd, i.appRange, i.sessRange, i.heldRange⟩

/-- no migration, application side: whatever is picked and whatever the Write does, `configureApplicationMeter` leaves the
session pool and the meters map alone, and when it fails the application pool has exactly the members it had -/
theorem app_meter_stays_in_its_pool (c : Ctx) (q : Agent.Qer) (bidir : Bool) (hI : MInv c.st) :
    (configureAppMeter c q bidir).1.st.sessFree = c.st.sessFree ∧
    ((configureAppMeter c q bidir).2 = none → ∀ x, x ∈ (configureAppMeter c q bidir).1.st.appFree ↔ x ∈ c.st.appFree) :=
  let ⟨hs, _, ht⟩ := (configureAppMeter_spec c q bidir).2 hI.appNd hI.appPool.zero
  ⟨hs, fun h => by rw [h] at ht; exact ht.1⟩

/-- no migration, session side -/
theorem sess_meter_stays_in_its_pool (c : Ctx) (q : Agent.Qer) (hI : MInv c.st) :
    (configureSessMeter c q).1.st.appFree = c.st.appFree ∧
    ((configureSessMeter c q).2 = none → ∀ x, x ∈ (configureSessMeter c q).1.st.sessFree ↔ x ∈ c.st.sessFree) :=
  let ⟨ha, _, ht⟩ := (configureSessMeter_spec c q).2 hI.sessNd hI.sessPool.zero
  ⟨ha, fun h => by rw [h] at ht; exact ht.1⟩

/-- **a failed write is a rejection** (establishment): if `sendCreate` reports success, every Write RPC it issued was
served and every update answered OK or ALREADY_EXISTS — for every environment -/
theorem create_accepted_only_without_failed_write (cfg : Cfg4) (c : Ctx) (all updated : Rules)
    (hok : (sendCreate cfg c all updated).2.2 = true) :
    ∃ l, (sendCreate cfg c all updated).1.log = c.log ++ l ∧ ∀ r ∈ l, r.good = true := by
  obtain ⟨l, e, g⟩ := sendCreate_chain Chain.ext cfg c c all updated (allocCounters_eff ..).2 (fun c => ext_st c _ true)
    (fun _ => (configureMeters_eff ..).2) (fun _ => (updatePeers_eff ..).2) (fun _ _ => modifyFwd_ext _ _ _ _ (by decide) _ _)
  exact ⟨l, e, g hok⟩

/-- the same for the create/update part of a modification -/
theorem update_accepted_only_without_failed_write (cfg : Cfg4) (c : Ctx) (all updated : Rules)
    (hok : (sendUpdate cfg c all updated).2 = true) :
    ∃ l, (sendUpdate cfg c all updated).1.log = c.log ++ l ∧ ∀ r ∈ l, r.good = true := by
  obtain ⟨l, e, g⟩ := sendUpdate_chain Chain.ext cfg c all updated (fun c => ext_st c _ true) (fun _ => (updatePeers_eff ..).2)
    (fun _ _ => modifyFwd_ext _ _ _ _ (by decide) _ _)
  exact ⟨l, e, g hok⟩

/-- the cells an accepted establishment gave to the session's PDRs: pairwise distinct, taken from the free pool, no longer free;
the pool lost nothing else -/
theorem created_counter_cells_exclusive (c : Ctx) (n : Nat) (pdrs : List Agent.Pdr) (hnd : c.st.ctrFree.Nodup)
    (hok : (allocCounters c n [] pdrs).2.2 = true) :
    ∃ ids : List Nat, ids.Nodup ∧ ids.length = min n pdrs.length ∧
      (allocCounters c n [] pdrs).2.1 = assign (pdrs.take n) ids ++ pdrs.drop n ∧
      (∀ i ∈ ids, i ∈ c.st.ctrFree ∧ i ∉ (allocCounters c n [] pdrs).1.st.ctrFree) ∧
      (∀ x ∈ (allocCounters c n [] pdrs).1.st.ctrFree, x ∈ c.st.ctrFree) := by
  obtain ⟨ids, hids, hsub, hiff, _, hres⟩ := (allocCounters_spec c n [] pdrs).2 hnd
  obtain ⟨h1, h2⟩ := hres hok
  exact ⟨ids, hids, h2, by simpa using h1, fun i hi => ⟨hsub i hi, fun h => ((hiff i).mp h).2 hi⟩,
    fun x hx => ((hiff x).mp hx).1⟩

/-- a modification never touches the counter pool; a refused deletion neither; an accepted deletion returns exactly the cells of
the deleted PDRs -/
theorem update_keeps_counter_pool (cfg : Cfg4) (c : Ctx) (all updated : Rules) : (sendUpdate cfg c all updated).1.st.ctrFree = c.st.ctrFree :=
  sendUpdate_ctrFree cfg c all updated
theorem delete_returns_the_deleted_cells (cfg : Cfg4) (c : Ctx) (del : Rules) :
    (sendDelete cfg c del).1.st.ctrFree =
      if (sendDelete cfg c del).2 then (del.pdrs.map (·.ctrID)).foldl setAdd c.st.ctrFree else c.st.ctrFree :=
  sendDelete_ctrFree cfg c del

/-- the handler stores what the plug-in returned: the session an accepted establishment appends to the association's store holds,
PDR by PDR, pairwise distinct counter cells, each free before the request and not free after it -/
theorem established_session_holds_fresh_cells (cfg : Agent.Cfg) (cfg4 : Cfg4) (x : Agent4.World4) (a lseid : Nat) (r : Agent.EstReq)
    (hnd : x.c.st.ctrFree.Nodup) (h : (Agent4.establish cfg cfg4 x a lseid r).2.upSeid.isSome) :
    ∃ s : Agent.Session, s.lseid = lseid ∧
      ((Agent4.establish cfg cfg4 x a lseid r).1.w.conn a).sessions = (x.w.conn a).sessions ++ [s] ∧
      (s.pdrs.map (·.ctrID)).Nodup ∧
      ∀ i ∈ s.pdrs.map (·.ctrID), i ∈ x.c.st.ctrFree ∧ i ∉ (Agent4.establish cfg cfg4 x a lseid r).1.c.st.ctrFree := by
  rcases Agent4.establish_cases cfg cfg4 x a lseid r with hn | ⟨pdrs, pool, g, fars, addQ, c4, pdrs3, hsc, e⟩
  · rw [hn] at h; cases h
  · obtain ⟨k1, k2, -⟩ := established_pdrs_hold_fresh_cells cfg4 x.c _ _ hnd (by rfl) (congrArg (·.2.2) hsc)
    rw [hsc] at k1 k2
    rw [e]
    exact ⟨_, rfl, by rw [Agent.conn_setConn], k1, k2⟩

/-- Session Deletion: accepted — the session leaves the store and exactly its PDRs' cells return; refused — store and pool untouched -/
theorem deleted_session_returns_its_cells (cfg4 : Cfg4) (x : Agent4.World4) (a seid : Nat) (s : Agent.Session)
    (hs : (x.w.conn a).sessions.find? (·.lseid = seid) = some s) :
    ((Agent4.deleteSession cfg4 x a seid).2.cause = Agent.causeAccepted →
        (Agent4.deleteSession cfg4 x a seid).1.c.st.ctrFree = (s.pdrs.map (·.ctrID)).foldl setAdd x.c.st.ctrFree ∧
        ((Agent4.deleteSession cfg4 x a seid).1.w.conn a).sessions = (x.w.conn a).sessions.filter (·.lseid ≠ seid)) ∧
    ((Agent4.deleteSession cfg4 x a seid).2.cause ≠ Agent.causeAccepted →
        (Agent4.deleteSession cfg4 x a seid).1.c.st.ctrFree = x.c.st.ctrFree ∧ (Agent4.deleteSession cfg4 x a seid).1.w = x.w) := by
  have key := sendDelete_ctrFree cfg4 x.c (Agent4.rulesOf s)
  rw [Agent4.deleteSession_eq cfg4 x a seid s hs]
  generalize sendDelete cfg4 x.c (Agent4.rulesOf s) = res at key ⊢
  obtain ⟨c4, ok⟩ := res
  cases ok
  · rw [if_neg Bool.false_ne_true]
    exact ⟨fun h => absurd (show Agent.causeRejected = Agent.causeAccepted from h) (by decide), fun _ => ⟨key, rfl⟩⟩
  · rw [if_pos rfl]
    exact ⟨fun _ => ⟨key, by dsimp only; rw [Agent.conn_setConn]⟩, fun h => absurd rfl h⟩

/-- the counter ledger along a history: the cells that leave the pool during a create are booked as held, an accepted delete
takes the cells of the deleted PDRs off the books -/
def ledgerStep (cfg : Cfg4) (x : Ctx × List Nat) (s : Step) : Ctx × List Nat :=
  let c := { x.1 with picks := s.picks, injs := s.injs }
  match s.req with
  | .create all updated => ((sendCreate cfg c all updated).1, x.2 ++ leftPool c.st.ctrFree (sendCreate cfg c all updated).1.st.ctrFree)
  | .update all updated => ((sendUpdate cfg c all updated).1, x.2)
  | .delete del => ((sendDelete cfg c del).1,
      if (sendDelete cfg c del).2 then x.2.filter (fun y => !(del.pdrs.map (·.ctrID)).contains y) else x.2)

def ledger (cfg : Cfg4) (srv : Srv) (startInjs : List Inj) (h : List Step) : Ctx × List Nat :=
  h.foldl (ledgerStep cfg) ((start cfg srv startInjs).1, [])

theorem ledger_is_run (cfg : Cfg4) (srv : Srv) (startInjs : List Inj) (h : List Step) :
    (ledger cfg srv startInjs h).1 = run cfg srv startInjs h := by
  unfold ledger run
  generalize (start cfg srv startInjs).1 = c
  generalize ([] : List Nat) = held
  induction h generalizing c held with
  | nil => rfl
  | cons s rest ih =>
    simp only [List.foldl_cons]
    have : (ledgerStep cfg (c, held) s).1 = apply cfg c s := by
      unfold ledgerStep apply
      cases s.req <;> rfl
    rw [← this]
    exact ih _ _

/-- **counter cells, every history, every environment**: a cell is never free while it is booked as held (handed out and not yet
returned by an accepted deletion), never booked twice, and the pool never holds a cell twice -/
theorem counters_inv (cfg : Cfg4) (srv : Srv) (startInjs : List Inj) (h : List Step) :
    CInv (ledger cfg srv startInjs h).1.st.ctrFree (ledger cfg srv startInjs h).2 := by
  unfold ledger
  have base : CInv (start cfg srv startInjs).1.st.ctrFree [] := ⟨start_ctr_nodup cfg srv startInjs, List.nodup_nil, by simp⟩
  generalize (start cfg srv startInjs).1 = c at base
  generalize ([] : List Nat) = held at base
  induction h generalizing c held with
  | nil => exact base
  | cons s rest ih =>
    simp only [List.foldl_cons]
    apply ih
    show CInv (ledgerStep cfg (c, held) s).1.st.ctrFree (ledgerStep cfg (c, held) s).2
    unfold ledgerStep
    cases s.req with
    | create all updated => exact sendCreate_ledger cfg _ all updated held base
    | update all updated => simp only; rw [sendUpdate_ctrFree]; exact base
    | delete del => exact sendDelete_ledger cfg _ del held base

/-! ## the statements are about something: small concrete runs (evaluated by the kernel) -/

private def c0 (injs : List Inj) (picks : List Nat) : Ctx :=
  { st := { appFree := [1, 2, 3], sessFree := [1, 2, 3], ctrFree := [0, 1, 2] }, injs := injs, picks := picks }
private def q1 : Agent.Qer := { qerID := 1, fseID := 7, ulMbr := 8, dlMbr := 16 }

-- the application-meter Write fails as a whole: refused, both cells back in the application pool, session pool untouched
example : (configureAppMeter (c0 [.rpc] [3, 1]) q1 true).2 = none := by decide
example : (configureAppMeter (c0 [.rpc] [3, 1]) q1 true).1.st.appFree = [2, 3, 1] := by decide
example : (configureAppMeter (c0 [.rpc] [3, 1]) q1 true).1.st.sessFree = [1, 2, 3] := by decide
-- one update refused with INTERNAL: the same
example : (configureAppMeter (c0 [.upd 1 13] [3, 1]) q1 true).2 = none := by decide
-- served: the meter holds the picked cells, which left the pool
example : (configureAppMeter (c0 [] [3, 1]) q1 true).2 = some { kind := 1, ul := 3, dl := 1 } := by decide
example : (configureAppMeter (c0 [] [3, 1]) q1 true).1.st.appFree = [2] := by decide
-- `Rpc.good` tells failed writes from served ones
example : (Rpc.good { ups := [], inj := .rpc, codes := [] }) = false := by decide
example : (Rpc.good { ups := [], inj := .none, codes := [0, 6] }) = true := by decide
example : (Rpc.good { ups := [], inj := .upd 0 13, codes := [13, 0] }) = false := by decide

-- counter cells: two PDRs get the two cells the environment picks (2, then 0), the pool keeps the third
example : ((allocCounters (c0 [] [2, 0]) 2 [] [{ pdrID := 1 }, { pdrID := 2 }]).2.1.map (·.ctrID), (allocCounters (c0 [] [2, 0]) 2 [] [{ pdrID := 1 }, { pdrID := 2 }]).1.st.ctrFree) = ([2, 0], [1]) := by decide
-- the reset of the second cell fails: refused, both cells have left the pool (the ledger books them as held)
example : (allocCounters (c0 [.none, .rpc] [2, 0]) 2 [] [{ pdrID := 1 }, { pdrID := 2 }]).2.2 = false ∧ (allocCounters (c0 [.none, .rpc] [2, 0]) 2 [] [{ pdrID := 1 }, { pdrID := 2 }]).1.st.ctrFree = [1] := by decide

end C15
