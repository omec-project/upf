import Upf.Gen.Dispatch
import Upf.Proofs.AnyHistory
/-!
# C02 — Every request gets exactly one correctly addressed response

In the agent model every session handler returns exactly one `Reply` (the Go handlers have one `reply` variable and
one `SendPFCPMsg`); the trace acceptor counts the datagrams on the peer socket, so a second send anywhere is a trace
the model rejects. The theorems below state how that one reply is addressed, for every world, association and request.
-/
namespace Props.C02
open Agent

/-- every establishment reply — accepted or rejected — is addressed to the control plane's SEID of the request -/
theorem est_reply_seid (cfg : Cfg) (w : World) (a lseid : Nat) (r : EstReq) :
    (establish cfg w a lseid r).2.seid = r.cpSeid := by
  rcases establish_cases cfg w a lseid r with e | ⟨_, e⟩ | ⟨_, _, _, _, e⟩ <;> rw [e]

/-- a reply that carries a UP F-SEID is an accepted one, carries exactly `lseid`, and the session is then stored under it -/
theorem est_upseid_iff_stored (cfg : Cfg) (w : World) (a lseid : Nat) (r : EstReq) (s : Nat)
    (h : (establish cfg w a lseid r).2.upSeid = some s) :
    s = lseid ∧ (establish cfg w a lseid r).2.cause = causeAccepted ∧
    (((establish cfg w a lseid r).1.conn a).sessions.any (·.lseid = lseid)) = true := by
  rcases establish_cases cfg w a lseid r with e | ⟨_, e⟩ | ⟨_, s', _, hs', e⟩ <;> rw [e] at h ⊢
  · cases h
  · cases h
  · refine ⟨(Option.some.inj h).symm, rfl, ?_⟩
    rw [World.conn_setL]
    exact List.any_eq_true.mpr ⟨s', List.mem_append_right _ List.mem_cons_self, by rw [hs']; exact decide_eq_true rfl⟩

/-- deletion: unknown session ⇒ rejected with SEID 0; known ⇒ accepted and addressed to the stored CP SEID -/
theorem del_reply (cfg : Cfg) (w : World) (a seid : Nat) :
    (((w.conn a).sessions.find? (·.lseid = seid)) = none →
        (deleteSession cfg w a seid).2 = { cause := causeRejected, seid := 0 }) ∧
    (∀ s, ((w.conn a).sessions.find? (·.lseid = seid)) = some s →
        (deleteSession cfg w a seid).2 = { cause := causeAccepted, seid := s.rseid }) := by
  rw [deleteSession_eq]
  exact ⟨fun h => by rw [h], fun s h => by rw [h]⟩

/-- modification of an unknown session: rejected with SEID 0 and nothing changes -/
theorem mod_unknown (cfg : Cfg) (w : World) (a : Nat) (r : ModReq)
    (h : (w.conn a).sessions.find? (·.lseid = r.seid) = none) :
    (Agent.modify cfg w a r).reply = { cause := causeRejected, seid := 0 } ∧ (Agent.modify cfg w a r).world = w ∧ (Agent.modify cfg w a r).markers = [] := by
  rw [modify_eq_unknown cfg h]; exact ⟨rfl, rfl, rfl⟩

/-- modification of a known session: the one reply — accepted or rejected at any point — is addressed to the control plane's SEID
for that session: the one this request brings in a CP F-SEID, else the stored one -/
theorem mod_reply_seid (cfg : Cfg) (w : World) (a : Nat) (r : ModReq) (s0 : Session)
    (h : (w.conn a).sessions.find? (·.lseid = r.seid) = some s0) :
    (modify cfg w a r).reply.seid = cpSeidAfter r s0 := Agent.mod_reply_seid cfg w a r s0 h

/-- an accepted modification stores that SEID with the session (same UP SEID), so a CP F-SEID change is remembered … -/
theorem mod_accepted_stores_cp_seid (cfg : Cfg) (w : World) (a : Nat) (r : ModReq) (s0 : Session)
    (h : (w.conn a).sessions.find? (·.lseid = r.seid) = some s0) (hacc : (modify cfg w a r).reply.cause = causeAccepted) :
    ∃ s', ((modify cfg w a r).world.conn a).sessions.find? (·.lseid = r.seid) = some s' ∧ s'.rseid = cpSeidAfter r s0 ∧ s'.lseid = r.seid :=
  Agent.mod_accepted_stores_cp_seid cfg w a r s0 h hacc

/-- … and the next response for the session (its Session Deletion Response) carries it -/
theorem cp_seid_change_is_remembered (cfg : Cfg) (w : World) (a : Nat) (r : ModReq) (s0 : Session)
    (h : (w.conn a).sessions.find? (·.lseid = r.seid) = some s0) (hacc : (modify cfg w a r).reply.cause = causeAccepted) :
    (deleteSession cfg (modify cfg w a r).world a r.seid).2 = { cause := causeAccepted, seid := cpSeidAfter r s0 } :=
  Agent.cp_seid_change_is_remembered cfg w a r s0 h hacc

-- non-vacuity: an established session (CP SEID 5001), a modification that only brings a new CP F-SEID (9999) is accepted and answered
-- with 9999, and so is the deletion that follows
def nvCfg : Cfg := { accessIP := 0xC6120101, coreIP := 0x7F000001, ueAlloc := false, endMarker := false, qci := [] }
def nvW : World := (establish nvCfg { conns := [(0, { remoteNode := "smf" })] } 0 77
  { nodeID := "smf", cpSeid := 5001, cpIP := 1,
    pdrs := [{ id := 1, prec := 1, srcIface := some 1, ueip := some (2, 0x0A3C0001), farID := 1 }],
    fars := [{ id := 1, action := 2, fwd := some { dst := some 0, ohc := some (7, 0xC6120109) } }], qers := [] }).1
example : (modify nvCfg nvW 0 { seid := 77, cpFseid := some (9999, 1) }).reply = { cause := 1, seid := 9999 } ∧
    (deleteSession nvCfg (modify nvCfg nvW 0 { seid := 77, cpFseid := some (9999, 1) }).world 0 77).2 = { cause := 1, seid := 9999 } := by
  decide +kernel

/-- cause values: acceptance is 1; the rejection causes differ from it -/
theorem causes : causeAccepted = 1 ∧ causeRejected = 64 ∧ causeNoAssoc = 72 ∧ causeNoResources = 75 := ⟨rfl, rfl, rfl, rfl⟩

/-! ## the dispatcher (T1: `Gen.Dispatch` is regenerated from `PFCPConn.HandlePFCPMsg` on every run) -/

open Gen.Dispatch in
/-- PFCP request types the agent serves, with the response type each must be answered with -/
def served : List (Nat × String × String) :=
  [(1, "handleHeartbeatRequest", "NewHeartbeatResponse"), (3, "handlePFDMgmtRequest", "NewPFDManagementResponse"),
   (5, "handleAssociationSetupRequest", "NewAssociationSetupResponse"), (9, "handleAssociationReleaseRequest", "NewAssociationReleaseResponse"),
   (50, "handleSessionEstablishmentRequest", "NewSessionEstablishmentResponse"),
   (52, "handleSessionModificationRequest", "NewSessionModificationResponse"),
   (54, "handleSessionDeletionRequest", "NewSessionDeletionResponse")]

/-- PFCP response-type messages (TS 29.244 table 7.3-1: node and session related responses, incl. Version Not Supported) -/
def responseTypes : List Nat := [2, 4, 6, 8, 10, 11, 13, 15, 51, 53, 55, 57]

/-- every served request type is dispatched by exactly one clause, to its own handler, and that clause takes the handler's reply -/
theorem every_request_has_one_replying_clause :
    served.all (fun (t, h, _) =>
      (Gen.Dispatch.clauses.filter (·.types.contains t)).map (fun c => (c.handler, c.takesReply, c.returns)) == [(h, true, false)]) = true := by
  decide +kernel

/-- the handler of a request type builds responses of the matching type only, and sends nothing itself: the one datagram per
request is the dispatcher's -/
theorem handlers_build_the_matching_response :
    served.all (fun (_, h, ctor) =>
      (Gen.Dispatch.constructors.filter (·.1 == h)).map (·.2) == [[ctor]] &&
      (Gen.Dispatch.handlerSends.filter (·.1 == h)).map (·.2) == [0]) = true := by
  decide +kernel

/-- the dispatcher puts at most one datagram on the wire per incoming message: its only send is the top-level
`if reply != nil { SendPFCPMsg(reply) }` after the switch, and it has no loop -/
theorem one_send_per_message :
    Gen.Dispatch.sendCalls = 1 ∧ Gen.Dispatch.guardedSendsAfterSwitch = 1 ∧ Gen.Dispatch.loops = 0 := by
  decide

/-- response-type messages are never answered: a clause that serves a response type takes no reply, its handler builds no message
and sends nothing; any other type falls to the default clause, which returns -/
theorem response_types_are_never_answered :
    (Gen.Dispatch.clauses.filter (fun c => c.types.any responseTypes.contains)).all (fun c =>
      !c.takesReply &&
      (Gen.Dispatch.constructors.filter (·.1 == c.handler)).map (·.2) == [[]] &&
      (Gen.Dispatch.handlerSends.filter (·.1 == c.handler)).map (·.2) == [0]) = true ∧
    Gen.Dispatch.defaultReturns = true ∧
    (Gen.Dispatch.clauses.filter (·.takesReply)).all (fun c => c.types.all (fun t => !responseTypes.contains t)) = true := by
  decide +kernel

/-! ### the UP F-SEID addresses the session in all later requests (BESS agent model, arbitrary requests, no envelope) -/

/-- an accepted establishment returns a UP F-SEID under which the session is stored … -/
theorem accepted_establishment_is_addressable (cfg : Agent.Cfg) (w : Agent.World) (a lseid : Nat) (r : Agent.EstReq)
    (h : (Agent.establish cfg w a lseid r).2.upSeid = some lseid) : Agent.Known (Agent.establish cfg w a lseid r).1 a lseid := by
  unfold Agent.Known
  rcases establish_cases cfg w a lseid r with e | ⟨_, e⟩ | ⟨_, s, _, hs, e⟩ <;> rw [e] at h ⊢
  · cases h
  · cases h
  · rw [World.conn_setL]
    exact (isSome_find?_key Agent.Session.lseid lseid _).mpr ⟨s, List.mem_append_right _ List.mem_cons_self, by rw [hs]; rfl⟩

/-- … and it **stays addressable until it ends**: after ANY further requests — of any association, accepted or refused, any mix of
IEs, in any number — none of which is the deletion of the session, a report for it answered "context not found" or the ending of its
association, the session is still known to its association … -/
theorem session_addressable_until_it_ends (cfg : Agent.Cfg) (a l : Nat) (qs : List Agent.Req) (w : Agent.World)
    (hq : ∀ q ∈ qs, q.ends a l = false) (h : Agent.Known w a l) : Agent.Known (qs.foldl (Agent.stepReq cfg) w) a l :=
  List.foldlRecOn qs _ (motive := fun w => Agent.Known w a l) h fun w hw q hm => stepReq_known cfg w a l q (hq q hm) hw

/-- … so a modification naming it is answered for that session (header SEID = the control plane's SEID for it), never as unknown -/
theorem known_session_modification_is_addressed (cfg : Agent.Cfg) (w : Agent.World) (a : Nat) (r : Agent.ModReq)
    (h : Agent.Known w a r.seid) :
    ∃ s0, (w.conn a).sessions.find? (·.lseid = r.seid) = some s0 ∧ (Agent.modify cfg w a r).reply.seid = Agent.cpSeidAfter r s0 := by
  unfold Agent.Known at h
  cases hf : (w.conn a).sessions.find? (·.lseid = r.seid) with
  | none => rw [hf] at h; cases h
  | some s0 => exact ⟨s0, rfl, Agent.mod_reply_seid cfg w a r s0 hf⟩

end Props.C02
