import Upf.Proofs.Pending
import Upf.Proofs.Flow
import Upf.Gen.Handlers
import Upf.Model.Agent
/-!
# C01 — No PFCP datagram can crash or wedge the agent

What is proved, and how it is tied to the code:
* crash: T1 facts regenerated from the Go sources — the dispatcher `HandlePFCPMsg` starts with a deferred `recover` that
  neither re-panics nor exits, and every message-level IE field a handler dereferences is nil-tested first — plus the
  totality of the parsers on the model (C08: an accepted flow description has both endpoints, every malformed token list
  is refused; `parsePDR`/`parseFAR`/`markSessionQer` are total functions, with the refusals the Go performs).
* wedge: the only place the association's reader can block is the delivery of a response to a waiting requester;
  with the two regenerated facts (the entry is deleted on delivery; a requester that gives up is followed by Shutdown)
  `never_blocks` shows no response — late, duplicated, with any sequence number — can block it, in any reachable state.
* the tie: exhaustive single IE mutations of every dispatched message type in six association/session states and a raw
  datagram stream against the REAL agent (child process), with a valid Heartbeat Request after every case.
-/
namespace Props.C01

/-- T1: the dispatcher recovers -/
theorem dispatcher_recovers : Gen.Handlers.dispatcherRecovers = true := by decide

/-- T1: no handler dereferences a message-level IE field without a nil test -/
theorem handlers_nil_guarded : Gen.Handlers.all.all (fun h => h.unguarded.isEmpty) = true := by decide

/-- T1: the pending-request facts -/
theorem pending_facts : Gen.Handlers.responseDeletesEntry = true ∧ Gen.Handlers.timeoutLeadsToShutdown = true := by decide

/-- no response can block the reader, in every state reachable by any sequence of originations, responses and give-ups -/
theorem reader_never_blocks (es : List Pending.Ev) (e : Pending.Ev) :
    (Pending.step Gen.Handlers.responseDeletesEntry Gen.Handlers.timeoutLeadsToShutdown (Pending.run {} es) e).2 ≠ .blocked :=
  Pending.reader_never_blocks es e

/-- without the delete a duplicated response DOES block (the statement above is not vacuous) -/
theorem duplicate_blocks_without_delete :
    let s1 := (Pending.step false true {} (.originate 7)).1
    let s2 := (Pending.step false true s1 (.response 7)).1
    (Pending.step false true s2 (.response 7)).2 = .blocked := by decide

/-- flow descriptions: whatever the token list, the parser returns (it is a total function) and an accepted result has
both networks — the nil dereference of parseSDFFilter / parseApplicationID cannot happen -/
theorem flow_parser_safe {N P : Type} (L : Flow.Lex N P) (ue : String) (toks : List String) (f : Flow.IPF N P)
    (h : Flow.parse L ue toks = some f) : f.src.net.isSome ∧ f.dst.net.isSome := Flow.ok_has_both L ue toks f h

/-- marking on a session without PDRs changes nothing (it used to index the empty list) -/
theorem mark_no_pdrs (qers : List Agent.Qer) : Agent.markSessionQer [] qers = (qers, []) := rfl

end Props.C01
