import Upf.Proofs.Notif
import Upf.Model.Digest
/-!
# C13 — Downlink data notifications reach the control plane once per interval

`Notif.shouldNotify` transcribes `downlinkDataNotifier.shouldNotify` with an explicit clock; `Agent.digestReport`
transcribes `handleDigestReport`. Statements hold for every monotone time-stamped report sequence over any number of
sessions, every interval, every stored session.
-/
namespace Props.C13
open Notif

/-- a first report for a session is never suppressed -/
theorem first_passes (iv : Nat) (st : St) (t f : Nat) (rest : List (Nat × Nat)) (h : st.last f = none) :
    (t, f) ∈ run iv st ((t, f) :: rest) := Notif.first_passes iv st t f rest h

/-- after a notification for `f` was forwarded at `t0`, every later forwarded notification for `f` is at least one
interval later — however many reports arrive, for any number of other sessions in between -/
theorem spacing (iv : Nat) (evs : List (Nat × Nat)) (st : St) (f t0 : Nat)
    (h0 : st.last f = some t0) (hge : ∀ e ∈ evs, t0 ≤ e.1) (hm : Mono evs) :
    ∀ e ∈ run iv st evs, e.2 = f → e.1 ≥ t0 + iv := Notif.spacing_aux iv evs st f t0 h0 hge hm

/-- a report inside the interval is suppressed and leaves the state unchanged -/
theorem suppressed_inside (iv : Nat) (st : St) (now f t : Nat) (h : st.last f = some t) (hlt : now - t < iv) :
    shouldNotify iv st now f = (false, st) := by
  simp [shouldNotify, h, Nat.not_le.mpr hlt]

/-- a report at or after the interval passes -/
theorem passes_after (iv : Nat) (st : St) (now f t : Nat) (h : st.last f = some t) (hge : now - t ≥ iv) :
    (shouldNotify iv st now f).1 = true := by
  simp [shouldNotify, h, hge]

/-- T1: the interval both datapaths pass to the notifier is 20 s -/
theorem interval_20s : Gen.Consts.notifyIntervalNs_notifyListen = 20000000000 := by decide

open Agent

/-- what is reported: the control plane's SEID and the session's FIRST downlink PDR; only if that PDR's FAR (when the
session has it) asks for notification -/
theorem report_shape (s : Session) (seid pid : Nat) (h : digestReport s = some (seid, pid)) :
    seid = s.rseid ∧ pid ≠ 0 ∧ ∃ p, s.pdrs.find? (·.srcIface = Sdf.core) = some p ∧ p.pdrID = pid ∧
      ∀ f ∈ s.fars, f.farID = p.farID → f.applyAction &&& ActionNotify ≠ 0 := by
  unfold digestReport at h
  cases hp : s.pdrs.find? (·.srcIface = Sdf.core) with
  | none => simp [hp] at h
  | some p =>
    simp only [hp, Option.ite_none_left_eq_some, Option.some.injEq, Prod.mk.injEq] at h
    obtain ⟨hany, hz, rfl, rfl⟩ := h
    exact ⟨rfl, hz, p, rfl, rfl, fun f hf hid hbit =>
      hany (List.any_eq_true.mpr ⟨f, hf, by simp [hid, hbit]⟩)⟩

/-- a downlink rule that does not ask for notification: nothing is sent -/
theorem no_report_without_notify (s : Session) (p : Pdr) (f : Far)
    (hp : s.pdrs.find? (·.srcIface = Sdf.core) = some p) (hf : f ∈ s.fars) (hid : f.farID = p.farID)
    (hbit : f.applyAction &&& ActionNotify = 0) : digestReport s = none := by
  unfold digestReport
  simp only [hp]
  simp only [List.any_eq_true, decide_eq_true_eq]
  have : ∃ x, x ∈ s.fars ∧ x.farID = p.farID ∧ x.applyAction &&& ActionNotify = 0 := ⟨f, hf, hid, hbit⟩
  simp [this]

example : run 20 { last := fun _ => none } [(0, 1), (5, 1), (5, 2), (19, 1), (20, 1), (25, 2), (41, 1)] = [(0, 1), (5, 2), (20, 1), (25, 2), (41, 1)] := by decide
example : digestReport ⟨1, 9, [{ srcIface := 1, pdrID := 1, farID := 1 }, { srcIface := 2, pdrID := 2, farID := 2 }],
    [{ farID := 2, applyAction := 12 }], []⟩ = some (9, 2) := by decide

end Props.C13
