import Upf.Proofs.AgentMarker
import Upf.Proofs.Modify
/-!
# C14 — End markers go to the old tunnel, once

`Agent.updFars` transcribes the Update FAR loop of the modification handler with `UpdateFAR`/`addEndMarker`
(session_far.go); `Agent.modify` emits the collected markers only when the feature is enabled and only after the
datapath update. Statements hold for every stored FAR list and every list of updates.
-/
namespace Props.C14
open Agent

/-- one marker per update that carries the flag AND names a stored FAR; each is built from the FAR as it was stored
BEFORE this message (old peer address, old TEID, the UPF address of that interface); in message order; nothing else -/
theorem markers_exact (stored ups : List Far) (hnd : (ups.map (·.farID)).Nodup) :
    (updFars stored ups).2.2 =
      ups.filterMap fun f => if f.sendEndMarker then (stored.find? (·.farID = f.farID)).map markerOf else none := by
  rw [updFars_eq]
  simpa using foldl_stepFar_markers stored ups stored [] [] hnd (fun _ _ => rfl)

/-- no flag, no marker -/
theorem markers_none_without_flag (stored ups : List Far) (hnd : (ups.map (·.farID)).Nodup)
    (h : ∀ f ∈ ups, f.sendEndMarker = false) : (updFars stored ups).2.2 = [] := by
  rw [markers_exact stored ups hnd]
  apply List.filterMap_eq_nil_iff.mpr
  intro f hf; simp [h f hf]

/-- unknown FAR IDs, no marker -/
theorem markers_none_for_unknown (stored ups : List Far) (hnd : (ups.map (·.farID)).Nodup)
    (h : ∀ f ∈ ups, stored.find? (·.farID = f.farID) = none) : (updFars stored ups).2.2 = [] := by
  rw [markers_exact stored ups hnd]
  apply List.filterMap_eq_nil_iff.mpr
  intro f hf; simp [h f hf]

/-- the marker's addressing is the stored (old) tunnel: destination = old peer, TEID = old TEID, source = old UPF-side address -/
theorem marker_fields (f : Far) : (markerOf f).dst = f.tunnelIP4Dst ∧ (markerOf f).teid = f.tunnelTEID ∧ (markerOf f).src = f.tunnelIP4Src :=
  ⟨rfl, rfl, rfl⟩

/-- the flag is bit 2 (SNDEM) of PFCPSMReq-Flags inside the (Update) Forwarding Parameters; creations never emit
(the creation path does not go through `updFars`), and the GTP-U port the code uses is 2152 -/
theorem flag_and_port (cfg : Cfg) (f : Far) (w : FwdIE) :
    ((applyFwd cfg f w).sendEndMarker = true ↔ (f.sendEndMarker = true ∨ ∃ fl, w.smreq = some fl ∧ has2ndBit fl = true)) ∧
    Gen.Consts.tunnelGTPUPort = 2152 := by
  refine ⟨?_, by decide⟩
  rw [(applyFwd_keeps cfg f w).2, Bool.or_eq_true, Option.any_eq_true]

/-! ### at the level of the handler (`Agent.modify` = handleSessionModificationRequest) -/

/-- what a Session Modification emits: with the feature enabled exactly the markers its Update FAR loop collected over the session's
FARs (stored before this message, plus those the message creates) — they are emitted once the create / update part has been programmed,
whether or not a later Remove step refuses the request; with the feature disabled, none -/
theorem modification_emits_exactly (cfg : Cfg) (w : World) (a : Nat) (r : ModReq) (s0 : Session)
    (h : (w.conn a).sessions.find? (·.lseid = r.seid) = some s0)
    (cp up : List Pdr) (pool1 pool2 : Option Pool.P) (cf uf : List Far)
    (hcp : parsePdrs r.seid (fseidIPOf r) (w.conn a).apps r.createPdrs w.pool = .ok (cp, pool1))
    (hcf : mapFars cfg r.seid (fseidIPOf r) false r.createFars = .ok cf)
    (hup : parsePdrs r.seid (fseidIPOf r) (w.conn a).apps r.updatePdrs pool1 = .ok (up, pool2))
    (huf : mapFars cfg r.seid (fseidIPOf r) true r.updateFars = .ok uf) :
    (modify cfg w a r).markers = if cfg.endMarker then (updFars (s0.fars ++ cf) uf).2.2 else [] := by
  rw [(modify_after_parse cfg h).2, parseMod_eq_some_iff.mpr ⟨pool1, hcp, hcf, hup, huf⟩]
  rfl

/-- a modification that fails before anything is programmed emits none: unknown session, a Create PDR that does not parse,
an Update FAR that does not parse -/
theorem failed_modification_emits_none (cfg : Cfg) (w : World) (a : Nat) (r : ModReq) :
    ((w.conn a).sessions.find? (·.lseid = r.seid) = none → (modify cfg w a r).markers = []) ∧
    (∀ e, parsePdrs r.seid (fseidIPOf r) (w.conn a).apps r.createPdrs w.pool = .error e → (modify cfg w a r).markers = []) ∧
    (∀ e, mapFars cfg r.seid (fseidIPOf r) true r.updateFars = .error e → (modify cfg w a r).markers = []) := by
  refine ⟨fun h => by rw [modify_eq_unknown cfg h], fun e hcp => ?_, fun e huf => ?_⟩ <;>
    refine modify_no_marker_unparsed cfg w a r fun p pool2 hp => ?_
  · obtain ⟨_, h1, _⟩ := parseMod_eq_some_iff.mp hp
    rw [hcp] at h1; cases h1
  · obtain ⟨_, _, _, _, h4⟩ := parseMod_eq_some_iff.mp hp
    rw [huf] at h4; cases h4

-- non-vacuity: an established session whose downlink FAR forwards to gNB 0xC6120109 / TEID 7; a handover (Update FAR with the flag, new
-- gNB 0xC612010A / TEID 8) emits one marker to the OLD tunnel, sourced from the access address
def nvCfg : Cfg := { accessIP := 0xC6120101, coreIP := 0x7F000001, ueAlloc := false, endMarker := true, qci := [] }
def nvW : World := (establish nvCfg { conns := [(0, { remoteNode := "smf" })] } 0 77
  { nodeID := "smf", cpSeid := 5001, cpIP := 1,
    pdrs := [{ id := 1, prec := 1, srcIface := some 1, ueip := some (2, 0x0A3C0001), farID := 1 }],
    fars := [{ id := 1, action := 2, fwd := some { dst := some 0, ohc := some (7, 0xC6120109) } }], qers := [] }).1
example : (modify nvCfg nvW 0 { seid := 77, updateFars := [{ id := 1, action := 2, fwd := some { dst := some 0, ohc := some (8, 0xC612010A), smreq := some 2 } }] }).markers
    = [⟨0xC6120101, 0xC6120109, 7⟩] := by decide +kernel

-- non-vacuity: two flagged updates, one of an unknown FAR
example : (updFars [{ farID := 2, tunnelIP4Dst := 10, tunnelTEID := 7 }]
    [{ farID := 2, sendEndMarker := true, tunnelIP4Dst := 11 }, { farID := 9, sendEndMarker := true }]).2.2 = [⟨0, 10, 7⟩] := by decide

end Props.C14
