import Upf.Proofs.Retry
import Upf.Proofs.Pending
import Upf.Gen.Handlers
import Upf.Gen.Consts
import Upf.Gen.Retry
/-!
# C12 — Association, heartbeat and retransmission contract

`Retry.send seq N evs` transcribes `sendPFCPRequestMessage` as the waiter of one request sees it: the first
transmission, then one retransmission per timeout while retries are left; a response is delivered to it only when it
carries the request's sequence number (`handleIncomingResponse` looks the pending request up by sequence number).
Statements hold for every retry count, every sequence number and every sequence of timeouts / responses / shutdown.
-/
namespace Props.C12
open Retry

/-- at most 1 + max_req_retries transmissions, whatever happens -/
theorem tx_bound (seq N : Nat) (es : List Ev) : (send seq N es).1 ≤ 1 + N := Retry.tx_bound seq N es

/-- the peer is declared dead only when every one of the 1 + N transmissions went unanswered -/
theorem dead_iff_all_unanswered (seq N : Nat) (es : List Ev) (h : (send seq N es).2 = .dead) :
    (send seq N es).1 = 1 + N ∧ (es.filter (fun e => match e with | .timeout => true | _ => false)).length ≥ N + 1 := by
  have := Retry.dead_all_timeouts seq es N 1 h
  unfold send; omega

/-- it stops as soon as a response with the request's sequence number arrives: nothing after it matters -/
theorem stops_on_match (seq r tx : Nat) (rest : List Ev) : go seq r tx (.resp seq :: rest) = (tx, .answered) := by
  simp [go]

/-- a response with another sequence number is ignored by this waiter -/
theorem wrong_seq_ignored (seq s r tx : Nat) (rest : List Ev) (h : s ≠ seq) : go seq r tx (.resp s :: rest) = go seq r tx rest := by
  simp [go, h]

/-- the defaults of the contract: 5 retries, 2 s response timeout, 5 s heartbeat interval (regenerated constants) -/
theorem defaults : Gen.Consts.maxReqRetriesDefault = 5 ∧ Gen.Consts.respTimeoutDefault = 2000000000 ∧
    Gen.Consts.hbIntervalDefault = 5000000000 := by decide

/-- a late or duplicated response never blocks the reader that delivers responses (see C01), so the agent's own
requests and the peer's heartbeats keep being served -/
theorem late_or_duplicate_harmless (es : List Pending.Ev) (e : Pending.Ev) :
    (Pending.step Gen.Handlers.responseDeletesEntry Gen.Handlers.timeoutLeadsToShutdown (Pending.run {} es) e).2 ≠ .blocked :=
  Pending.reader_never_blocks es e

-- non-vacuity: N = 2; answered at the third transmission; never answered
example : send 7 2 [.timeout, .resp 6, .timeout, .resp 7, .timeout] = (3, .answered) := by decide
example : send 7 2 [.timeout, .timeout, .timeout] = (3, .dead) := by decide

/-! ### the loop at the width the code gives it

`Gen.Retry` is regenerated from messages.go / upf.go on every run: the statements of `sendPFCPRequestMessage` (log calls dropped)
and the type of `upf.maxReqRetries`. `Retry.goU8` transcribes exactly these statements on 8-bit values. -/

/-- T1: the retransmission loop is, statement by statement, the one `Retry.goU8` was written against, and its budget is a `uint8` -/
theorem retry_loop_is_the_modelled_one :
    Gen.Retry.body = ["{", "pConn.pendingReqs.Store(r.msg.Sequence(), r)", "pConn.SendPFCPMsg(r.msg)",
      "retriesLeft := pConn.upf.maxReqRetries", "for {",
      "if reply, rc := r.GetResponse(pConn.shutdown, pConn.upf.respTimeout); rc {",
      "if retriesLeft > 0 {", "pConn.SendPFCPMsg(r.msg)", "retriesLeft--", "} else {", "return nil, true", "}",
      "} else {", "return reply, false", "}", "}", "}"] ∧ Gen.Retry.retriesType = "uint8" := ⟨rfl, rfl⟩

/-- for EVERY value the configuration can carry (0..255, the largest included) the 8-bit loop is the loop over `Nat` the other
statements are about: no wrap-around, no comparison that is always true -/
theorem loop_at_code_width_is_the_model (seq : Nat) (N : BitVec 8) (es : List Ev) : sendU8 seq N es = send seq N.toNat es :=
  Retry.sendU8_eq seq N es

/-- hence at most 1 + max_req_retries ≤ 256 transmissions of one request, whatever the peer does -/
theorem tx_bound_at_code_width (seq : Nat) (N : BitVec 8) (es : List Ev) :
    (sendU8 seq N es).1 ≤ 1 + N.toNat ∧ (sendU8 seq N es).1 ≤ 256 := Retry.tx_bound_u8 seq N es

-- non-vacuity at the boundary: budget 255, a peer that never answers: 256 transmissions, then dead
example : sendU8 7 255#8 (List.replicate 300 .timeout) = (256, .dead) := by decide +kernel

end Props.C12
