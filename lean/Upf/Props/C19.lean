import Upf.Proofs.Calc
import Upf.Gen.Leaf
import Upf.Model.Rest
/-!
# C19 — The slice-configuration REST endpoint programs what was posted, or nothing

`Gen.Leaf.calculateBitRates` is regenerated from web_service.go on every run; the conversion theorem is
stated about that generated definition directly (no hand model in between). `Rest.serve` transcribes the
decision structure of `ConfigHandler.ServeHTTP`, with the response actions as a list.
-/
namespace Props.C19

/-- the stated unit: bps 1, Kbps 10^3, Gbps 10^9, Mbps and anything else (unstated) 10^6 — literals of the property -/
def unitOf (u : String) : Nat :=
  if u = "bps" then 1 else if u = "Kbps" then 1000 else if u = "Gbps" then 1000000000 else 1000000

/-- T1 tie: the hand transcription used by the trace acceptor equals the regenerated function, for all inputs -/
theorem calc_model_eq (mbr : BitVec 64) (u : String) :
    Gen.Leaf.calculateBitRates mbr u = Calc.bitRates mbr (Rest.unitOfString u) := by
  simp only [Gen.Leaf.calculateBitRates, Rest.unitOfString, beq_iff_eq, apply_ite (Calc.bitRates mbr)]
  rfl

theorem unitOf_eq (u : String) : unitOf u = (Rest.unitOfString u).factor := by
  simp only [unitOf, Rest.unitOfString, apply_ite Calc.Unit_.factor]
  simp only [Calc.Unit_.factor, ite_self]

/-- for every 64-bit rate and every unit string: a non-zero rate whose converted value fits in 63 bits is converted exactly -/
theorem calc_exact (mbr : BitVec 64) (u : String) (h0 : mbr ≠ 0#64)
    (hfit : mbr.toNat * unitOf u < 2^63) :
    (Gen.Leaf.calculateBitRates mbr u).toNat = mbr.toNat * unitOf u := by
  rw [unitOf_eq] at hfit ⊢
  rw [calc_model_eq]
  exact Calc.calc_exact mbr _ h0 hfit

/-- T1: the unit constants of the code are the documented powers of ten -/
theorem units_match : Gen.Consts.KB = 1000 ∧ Gen.Consts.MB = 1000000 ∧ Gen.Consts.GB = 1000000000 := by decide

open Rest

/-- PUT/POST with a decodable body: exactly one response, 201, and the document is programmed -/
theorem ok_programs (m : String) (d : Doc) (hm : m = "PUT" ∨ m = "POST") :
    serve m (.ok d) = { responses := [201], programmed := some d } := by
  rcases hm with h | h <;> simp [serve, h]

/-- unreadable or malformed body: a single 400 and nothing is programmed -/
theorem bad_body (m : String) (hm : m = "PUT" ∨ m = "POST") (b : Body) (hb : b = .unreadable ∨ b = .malformed) :
    serve m b = { responses := [400], programmed := none } := by
  rcases hm with h | h <;> rcases hb with hb | hb <;> simp [serve, h, hb]

/-- any other method: a single 405 and nothing is programmed -/
theorem other_method (m : String) (b : Body) (hm : ¬ (m = "PUT" ∨ m = "POST")) :
    serve m b = { responses := [405], programmed := none } := by
  have h1 : m ≠ "PUT" := fun h => hm (Or.inl h)
  have h2 : m ≠ "POST" := fun h => hm (Or.inr h)
  simp [serve, h1, h2]

-- non-vacuity
example : (Gen.Leaf.calculateBitRates 5#64 "Kbps").toNat = 5000 ∧ 5 * unitOf "Kbps" < 2^63 := by decide
example : (Gen.Leaf.calculateBitRates 9223372036854775807#64 "Kbps") = 9223372036854775807#64 := by decide

end Props.C19
