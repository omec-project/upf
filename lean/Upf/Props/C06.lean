import Upf.Proofs.NewPool
import Upf.Proofs.Lockset
import Upf.Model.LockFacts
import Upf.Proofs.History
/-!
# C06 — UE IP pool: in range, exclusive, sticky, conserved

`Pool.P` transcribes `IPPool` (`freePool` as a FIFO list, `inventory` as an association list);
`NewPool.newPool` transcribes `NewIPPool` for IPv4 prefixes. All statements are for every pool, every
session id and every operation sequence — no bound on length or on the number of sessions.
-/
namespace Props.C06
open Pool

/-- construction: for every prefix of length ≤ 30 the pool holds exactly the addresses strictly between
the network and the broadcast address, each once -/
theorem newPool_ok (ip : NewPool.U32) (len : Nat) (hl : len ≤ 30) :
    ∃ l, NewPool.newPool ip len = some l ∧ l.Nodup ∧ l.length = 2 ^ (32 - len) - 2 ∧
      ∀ a, a ∈ l ↔ ((ip &&& NewPool.maskOf len).toNat < a ∧ a < (ip &&& NewPool.maskOf len).toNat + 2 ^ (32 - len) - 1) :=
  NewPool.newPool_spec ip len hl

/-- the invariant (free ++ held is a permutation of the pool; no session twice) holds in every reachable state -/
theorem reachable (base : List Nat) (h : base.Nodup) (ops : List Op) :
    Inv base (ops.foldl step { free := base, inv := [] }) := Pool.reachable base h ops

/-- exclusive: no address is held by two sessions -/
theorem exclusive (base : List Nat) (p : P) (h : Inv base p) (s1 s2 a : Nat)
    (h1 : (s1, a) ∈ p.inv) (h2 : (s2, a) ∈ p.inv) : s1 = s2 := Pool.exclusive base p h s1 s2 a h1 h2

/-- in range: whatever is handed out is an address of the pool -/
theorem in_range (base : List Nat) (p : P) (h : Inv base p) (s a : Nat)
    (ha : (alloc p s).1 = some a) : a ∈ base := Pool.alloc_from_base base p h s a ha

/-- sticky: asking again for the same session returns the same address -/
theorem sticky (p : P) (s a : Nat) (h : (alloc p s).1 = some a) :
    (alloc (alloc p s).2 s).1 = some a := Pool.sticky p s a h

/-- refused only when the session holds nothing and no address is free -/
theorem refuse_iff_full (p : P) (s : Nat) :
    (alloc p s).1 = none ↔ (lookup p s = none ∧ p.free = []) := Pool.refuse_iff_full p s

/-- conservation in every reachable state: #free + #held = pool size -/
theorem conserved (base : List Nat) (h : base.Nodup) (ops : List Op) :
    let p := ops.foldl step { free := base, inv := [] }
    p.free.length + p.inv.length = base.length := by
  intro p
  have := (Pool.reachable base h ops).perm.length_eq
  simpa using this

/-- release makes exactly the session's address reusable: it is appended to the free list and only the
session's entry leaves the inventory -/
theorem release_exact (p : P) (s a : Nat) (h : lookup p s = some a) :
    dealloc p s = (true, { free := p.free ++ [a], inv := p.inv.filter (·.1 != s) }) := by
  simp [dealloc, h]

/-- releasing a session that holds nothing changes nothing -/
theorem release_unknown (p : P) (s : Nat) (h : lookup p s = none) : dealloc p s = (false, p) := by
  simp [dealloc, h]

/-- mutual exclusion: under the lock discipline (every access to a location is issued by a thread that
holds the location's mutex — the regenerated fact `Gen.Locks`), two threads are never inside accesses
guarded by the same mutex, in any interleaving -/
theorem interleavings_exclusive (guard : Lockset.Loc → Lockset.Lock) (acts : List Lockset.Act) (s s' : Lockset.St)
    (h0 : Lockset.Inv guard s) (hr : Lockset.run guard s acts = some s') (t u : Lockset.Tid) (x y : Lockset.Loc)
    (htu : t ≠ u) (hx : s'.inside t = some x) (hy : s'.inside u = some y) : guard x ≠ guard y :=
  Lockset.race_free guard acts s s' h0 hr t u x y htu hx hy

/-- T1 fact, regenerated from ip_pool.go on every run: every `*IPPool` method that touches `freePool` or
`inventory` starts with `i.mu.Lock(); defer i.mu.Unlock()`, and nothing outside the type touches them -/
theorem ipPool_atomic : Gen.Locks.IPPool.atomic = true := by decide

-- non-vacuity: a /30 pool, two sessions, a third is refused, release, the address comes back
example : (NewPool.newPool 0x0A000000#32 30) = some [167772161, 167772162] := by decide
example :
    let p0 : P := { free := [1, 2], inv := [] }
    let p1 := (alloc p0 7).2; let p2 := (alloc p1 8).2
    (alloc p2 9).1 = none ∧ (alloc p2 7).1 = some 1 ∧ (alloc (dealloc p2 7).2 9).1 = some 1 := by decide

/-! ### at the level of the agent: the pool as the handlers use it (BESS agent model, any number of associations) -/

/-- **along every history** of association setups, PFD updates, establishments (accepted, or refused at any point after an address was
taken), deletions, reports "context not found", association endings, FAR-updating and rule-removing modifications, starting from the freshly built
pool: the pool invariant holds (free ++ held is a permutation of the configured addresses — so no address is held twice and none is
lost — and no session holds two), and every held address is held under the SEID of a stored session -/
theorem pool_invariant_along_every_history (base : List Nat) (hb : base.Nodup) (cfg : Agent.Cfg) (g : Teid.G) (evs : List Agent.Ev)
    (henv : Agent.EnvOK cfg { pool := some { free := base, inv := [] }, teid := g } evs) :
    let w := evs.foldl (Agent.stepEv cfg) { pool := some { free := base, inv := [] }, teid := g }
    Agent.PoolInv base w.pool ∧ Agent.Owned w := by
  exact Agent.pool_run base cfg evs _ (Agent.Inv.start cfg _ g) (Agent.FarWf.start _ g) henv (Agent.PoolInv.start base hb)
    (Agent.Owned.start base g)

/-- **no envelope at all**: after EVERY sequence of requests on the agent model — association setups, PFD updates, establishments,
Session Modifications with any mix of create / update / remove IEs, deletions, reports, association endings, each accepted or
refused at any point, over any number of associations — the pool invariant holds: free ++ held is a permutation of the configured
addresses (none handed out twice, none lost) and no session holds two -/
theorem pool_invariant_after_any_requests (base : List Nat) (hb : base.Nodup) (cfg : Agent.Cfg) (g : Teid.G) (qs : List Agent.Req) :
    Agent.PoolInv base (qs.foldl (Agent.stepReq cfg) { pool := some { free := base, inv := [] }, teid := g }).pool :=
  Agent.pool_any_history base cfg qs _ (Agent.PoolInv.start base hb)

/-- one step of it: every Session Modification, whatever it carries, keeps the invariant, and only the session it names can come
to hold an address through it -/
theorem any_modification_keeps_pool (base : List Nat) (cfg : Agent.Cfg) (w : Agent.World) (a : Nat) (r : Agent.ModReq)
    (hP : Agent.PoolInv base w.pool) :
    Agent.PoolInv base (Agent.modify cfg w a r).world.pool ∧
    ∀ k ∈ Agent.poolKeys (Agent.modify cfg w a r).world.pool, k ∈ Agent.poolKeys w.pool ∨ k = r.seid :=
  ⟨(Agent.modify_pool cfg w a r).inv base hP, (Agent.modify_pool cfg w a r).keys⟩

/-- and only establishments and modifications ever take an address: after any other request (deletion, report, association setup or
ending, PFD update) every session that holds an address held it before -/
theorem only_establishments_and_modifications_take_addresses (cfg : Agent.Cfg) (w : Agent.World) (q : Agent.Req)
    (hq : q.mayAllocate = false) (k : Nat) (h : k ∈ Agent.poolKeys (Agent.stepReq cfg w q).pool) : k ∈ Agent.poolKeys w.pool := by
  rw [Agent.stepReq_drops cfg w q hq] at h
  exact (Agent.poolKeys_foldl_freeAddr _ w.pool k h).1

end Props.C06
