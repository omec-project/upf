import Upf.Proofs.AgentQer
import Upf.Proofs.GenEqAgent
import Upf.Proofs.BessImage
/-!
# C09 — QoS is enforced as signalled; the session-wide limiter is chosen soundly (BESS part)

`Agent.qerHalf` / `Agent.bursts` transcribe one direction of `bess.addQER`, `Agent.calcBurst` transcribes
`calcBurstSizeFromRate`, `Agent.markSessionQer` transcribes `MarkSessionQer` (session_qer.go). The gate numbers
come from the regenerated constants. All statements are for every rate / burst configuration / rule set.
-/
namespace Props.C09
open Agent

/-- the gate numbers of the code are the datapath's meter / drop / pass gates -/
theorem gates : Gen.Consts.qerGateMeter = 0 ∧ Gen.Consts.qerGateStatusDrop = 5 ∧ Gen.Consts.qerGateUnmeter = 6 := by decide

/-- a closed gate drops that direction, whatever the rates -/
theorem closed_drops (status mbr gbr c0 p0 : Nat) (h : status ≠ 0) :
    (qerHalf status mbr gbr c0 p0).1 = Gen.Consts.qerGateStatusDrop := by
  simp [qerHalf, h]

/-- both rates zero mean unmetered -/
theorem unmetered (c0 p0 : Nat) : (qerHalf 0 0 0 c0 p0).1 = Gen.Consts.qerGateUnmeter := by
  simp [qerHalf]

/-- open gate, 40-bit rates with GBR ≤ MBR, not both zero: metered; the peak rate is exactly MBR × 125 bytes/s and the
committed rate GBR × 125 floored at 1 — independent of what the other direction left behind -/
theorem pir_exact (mbr gbr c0 p0 : Nat) (hm : mbr < 2^40) (hle : gbr ≤ mbr) (hne : mbr ≠ 0 ∨ gbr ≠ 0) :
    qerHalf 0 mbr gbr c0 p0 = (Gen.Consts.qerGateMeter, max (gbr * 125) 1, mbr * 125) := by
  unfold qerHalf
  rw [if_neg (by decide), if_pos hne, u64_rate gbr (by omega), u64_rate mbr hm]
  show (_, _, max (mbr * 125) (max (gbr * 125) 1)) = _
  rw [Nat.max_eq_left (show max (gbr * 125) 1 ≤ mbr * 125 by omega)]

/-- rate × duration is computed exactly: ⌊kbps · ms / 8⌋ bytes -/
theorem burst_exact (kbps ms : Nat) (h : kbps * ms < 2^64) : calcBurst kbps ms = kbps * ms / 8 := by
  have e : kbps * ms / 8 = kbps / 8 * ms + kbps % 8 * ms / 8 := by
    conv => lhs; rw [← Nat.div_add_mod' kbps 8, Nat.add_mul, Nat.mul_right_comm]
    rw [Nat.add_comm, Nat.add_mul_div_right _ _ (by decide : 0 < 8), Nat.add_comm]
  unfold calcBurst
  rw [u64_of_lt (kbps / 8 * ms) (Nat.lt_of_le_of_lt (Nat.mul_le_mul_right ms (Nat.div_le_self kbps 8)) h),
    u64_of_lt (kbps % 8 * ms) (Nat.lt_of_le_of_lt (Nat.mul_le_mul_right ms (Nat.mod_le kbps 8)) h), ← e,
    u64_of_lt _ (Nat.lt_of_le_of_lt (Nat.div_le_self _ 8) h)]

/-- every burst size is at least rate × duration and at least the operator-configured minimum for the QFI -/
theorem burst_lower (c : QosCfg) (mbr gbr : Nat) (hm : mbr * c.burstMs < 2^64) (hg : gbr * c.burstMs < 2^64) :
    let (cbs, pbs, ebs) := bursts c mbr gbr
    cbs ≥ gbr * c.burstMs / 8 ∧ cbs ≥ c.cbs ∧ pbs ≥ mbr * c.burstMs / 8 ∧ pbs ≥ c.pbs ∧ ebs ≥ mbr * c.burstMs / 8 ∧ ebs ≥ c.ebs := by
  simp only [bursts, burst_exact _ _ hm, burst_exact _ _ hg]
  omega

/-- a QER that a marking call labels session-wide is referenced by every PDR of the session and has no GBR -/
theorem mark_sound (pdrs : List Pdr) (qers : List Qer) (k : Nat) (q q' : Qer)
    (hq : qers[k]? = some q) (hq' : (markSessionQer pdrs qers).1[k]? = some q')
    (hnew : q.session = false) (hmarked : q'.session = true) :
    (∀ p ∈ pdrs, q'.qerID ∈ p.qerIDs) ∧ q'.ulGbr = 0 ∧ q'.dlGbr = 0 :=
  Agent.mark_sound pdrs qers k q q' hq hq' hnew hmarked

/-- one marking call labels at most one QER -/
theorem mark_unique_per_call (pdrs : List Pdr) (qers : List Qer) (k1 k2 : Nat) (q1 q2 q1' q2' : Qer)
    (h1 : qers[k1]? = some q1) (h2 : qers[k2]? = some q2)
    (h1' : (markSessionQer pdrs qers).1[k1]? = some q1') (h2' : (markSessionQer pdrs qers).1[k2]? = some q2')
    (n1 : q1.session = false) (n2 : q2.session = false) (m1 : q1'.session = true) (m2 : q2'.session = true) : k1 = k2 := by
  rcases mark_getElem? pdrs qers k1 q1 h1 with e | ⟨_, c1, id1, mb1, hl1, hc1, hch1, _⟩
  · rw [e] at h1'; cases h1'; rw [n1] at m1; cases m1
  rcases mark_getElem? pdrs qers k2 q2 h2 with e | ⟨_, c2, id2, mb2, hl2, hc2, hch2, _⟩
  · rw [e] at h2'; cases h2'; rw [n2] at m2; cases m2
  -- both positions are the one `choose` returned
  rw [hl1] at hl2; cases hl2
  rw [hc1] at hc2; cases hc2
  rw [hch1] at hch2; cases hch2
  rfl

/-- The FULL statement of the last clause — over modification histories the session-wide QER is never re-labelled —
does NOT hold for the code as it is (known finding C09-session-qer-relabel): marks are never reset and the choice
follows the largest MBR, so updating another QER can make it session-level too. Witness: PDR lists [1,2]; QER 1 with
uplink MBR 8 and QER 2 with 24; the first call labels QER 2, and after QER 1 is updated to 123457 the next call labels
QER 1 as well. -/
theorem mark_stable_fails :
    let pdrs : List Pdr := [{ qerIDs := [1, 2] }]
    let q0 : List Qer := [{ qerID := 1, ulMbr := 8 }, { qerID := 2, ulMbr := 24 }]
    let q1 := (markSessionQer pdrs q0).1
    let q1' := q1.map fun q => if q.qerID = 1 then { q with ulMbr := 123457, session := false } else q
    let q2 := (markSessionQer (markSessionQer pdrs q0).2 q1').1
    q1.map (·.session) = [false, true] ∧ q2.map (·.session) = [true, true] := by decide

/-- T1 tie: `calcBurstSizeFromRate` as regenerated from utils.go IS the model's `calcBurst`, every pair of 64-bit inputs — so
`burst_exact` / `burst_lower` speak about the code's function -/
theorem burst_is_the_code (kbps ms : BitVec 64) :
    (Gen.Leaf.calcBurstSizeFromRate kbps ms).toNat = calcBurst kbps.toNat ms.toNat := by
  simp only [Gen.Leaf.calcBurstSizeFromRate, calcBurst, u64, BitVec.toNat_add, BitVec.toNat_mul, BitVec.toNat_udiv,
    BitVec.toNat_umod, BitVec.toNat_ofNat]

/-- **what is programmed is what is stored**: along every history in the envelope (`Agent.Inv`), for every stored session whose rules have
pairwise different keys, the two entries `bess.addQER` builds for each of its QERs (gate, rates, bursts of `qerHalf` / `bursts`, uplink and
downlink) lie in the lookup table its level selects, under the QER's key — for application QERs and the session-wide one alike -/
theorem stored_qer_is_programmed (cfg : Cfg) (w : World) (hI : Inv cfg w) (s : Session) (hs : s ∈ allSessions w) (hnd : SelfNodup cfg s)
    (q : Qer) (hq : q ∈ s.qers) (e : String × String) (he : e ∈ qerEntries cfg q) :
    (w.tables.tab (if q.session then Tb.sess else Tb.app)).get e.1 = some e.2 := by
  by_cases hsess : q.session = true
  · rw [if_pos hsess]
    exact hI.get_of_mem hs .sess (hnd .sess) (List.mem_flatMap.mpr ⟨q, List.mem_filter.mpr ⟨hq, by simpa using hsess⟩, he⟩)
  · rw [if_neg hsess]
    exact hI.get_of_mem hs .app (hnd .app) (List.mem_flatMap.mpr ⟨q, List.mem_filter.mpr ⟨hq, by simpa using hsess⟩, he⟩)

-- non-vacuity
example : qerHalf 0 1000 0 7 9 = (0, 1, 125000) ∧ qerHalf 1 1000 0 7 9 = (5, 7, 9) := by decide
example : calcBurst 24 9 = 27 := by decide
example : (markSessionQer [{ qerIDs := [1, 4] }, { qerIDs := [2, 4] }] [{ qerID := 1 }, { qerID := 2 }, { qerID := 4, ulMbr := 9 }]).1.map (·.session)
    = [false, false, true] := by decide

end Props.C09
