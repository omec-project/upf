import Upf.Proofs.TeidRun
import Upf.Proofs.Seid
import Upf.Gen.Leaf
import Upf.Model.LockFacts
import Upf.Proofs.History
/-!
# C07 — UP-chosen identifiers are unique among live users

`Teid.allocate M` transcribes `FTEIDGenerator.Allocate` for an arbitrary modulus `M` (the code's `maxValue`),
`Seid.pick` transcribes the retry loop of `NewPFCPSession`. Theorems hold for every `M > 0`, every cursor
position (so also across the 32-bit wrap-around), every used-set, every random source.
-/
namespace Props.C07

/-- a granted TEID is non-zero, at most `M`, was free, and becomes used; nothing else changes -/
theorem alloc_fresh (M : Nat) (g : Teid.G) (id : Nat) (g' : Teid.G) (ho : g.offset < M)
    (h : Teid.allocate M g = some (id, g')) :
    id ≠ 0 ∧ id ≤ M ∧ g.used (id - 1) = false ∧ g'.used (id - 1) = true ∧
    (∀ x, x ≠ id - 1 → g'.used x = g.used x) ∧ g'.offset < M := Teid.alloc_fresh M g id g' ho h

/-- allocation is refused only when every one of the `M` identifiers is in use -/
theorem alloc_full (M : Nat) (g : Teid.G) (hM : 0 < M) (ho : g.offset < M) (h : Teid.allocate M g = none) :
    ∀ x, x < M → g.used x = true := Teid.alloc_full M g hM ho h

/-- for every operation sequence: the TEIDs allocated and not freed are pairwise distinct, non-zero, ≤ M -/
theorem live_distinct (M : Nat) (hM : 0 < M) (ops : List Teid.Op) :
    let s := Teid.runS M Teid.init ops
    s.live.Nodup ∧ ∀ id ∈ s.live, id ≠ 0 ∧ id ≤ M := by
  intro s
  have h := Teid.inv_runS M ops Teid.init (Teid.inv_init M hM)
  exact ⟨h.nodup, fun id hid => ⟨(h.used id hid).1, (h.used id hid).2.1⟩⟩

/-- T1: the cursor update regenerated from fteid.go is `(o + 1) mod maxValue` on 32 bits, for every cursor
below the modulus (the generator keeps it there: `alloc_fresh`'s last conjunct) -/
theorem updateOffset_eq (o : BitVec 32) (h : o.toNat < Gen.Consts.maxValue) :
    (Gen.Leaf.FTEIDGenerator_updateOffset o).toNat = Teid.nextOff Gen.Consts.maxValue o.toNat := by
  unfold Gen.Leaf.FTEIDGenerator_updateOffset Teid.nextOff
  unfold Gen.Consts.maxValue at *
  simp only [BitVec.toNat_umod, BitVec.toNat_add, BitVec.toNat_ofNat, Nat.reducePow, Nat.reduceMod]
  omega

/-- T1: the modulus keeps identifiers inside 32 bits and above zero -/
theorem modulus_ok : Gen.Consts.minValue = 1 ∧ 0 < Gen.Consts.maxValue ∧ Gen.Consts.maxValue < 2 ^ 32 := by decide

/-- T1: every `*FTEIDGenerator` method touching `offset`/`usedMap` holds the mutex (or is a helper of one that does) -/
theorem fteid_atomic : Gen.Locks.FTEIDGenerator.atomic = true := by decide

/-- a granted SEID is non-zero and differs from every live session's SEID, whatever the random source returns -/
theorem seid_fresh (d : Nat → Nat) (live : List Nat) (i x j : Nat)
    (h : Seid.newSession d live i = (some x, j)) : x ≠ 0 ∧ x ∉ live := by
  have := Seid.pick_fresh d live _ i x j h
  exact ⟨this.1, this.2.1⟩

/-- establishment is refused exactly when every one of the `maxRetries` draws is zero or taken -/
theorem seid_refused_iff (d : Nat → Nat) (live : List Nat) (i : Nat) :
    (Seid.newSession d live i).1 = none ↔ ∀ k, k < Seid.maxRetries → (d (i + k) = 0 ∨ d (i + k) ∈ live) :=
  Seid.pick_none_iff d live _ i

-- non-vacuity: wrap-around at a small modulus; a repeating source
example : (Teid.allocate 3 { offset := 2, used := fun x => x == 2 }).map (·.1) = some 1 := by decide
example : (Teid.allocate 3 { offset := 1, used := fun _ => true }).map (·.1) = none := by decide
example : (Seid.pick (fun i => if i < 2 then 7 else 9) [7] 100 0) = (some 9, 3) := by decide

/-! ### at the level of the agent (handlers of messages_session.go on the BESS agent model)

`Agent.chosen w` lists the TEIDs of the stored sessions' PDRs whose F-TEID the UP chose (CHOOSE flag), over ALL associations.
`TeidInv` = the allocator's cursor is in range ∧ those TEIDs are pairwise different, non-zero and marked in use. -/

/-- an establishment — accepted, or refused at any point of its PDR loop or afterwards (the TEIDs it had chosen are given back) —
keeps every chosen TEID of every stored session different from all others and in use -/
theorem establishment_keeps_chosen_teids_distinct (cfg : Agent.Cfg) (w : Agent.World) (a lseid : Nat) (r : Agent.EstReq)
    (hk : (w.conns.map (·.1)).Nodup) (hT : Agent.TeidInv w) : Agent.TeidInv (Agent.establish cfg w a lseid r).1 :=
  Agent.establish_teidInv cfg w a lseid r hk hT

/-- deletion / report "context not found" / association ending give back exactly the TEIDs of the sessions that end -/
theorem endings_return_only_their_teids (cfg : Agent.Cfg) (w : Agent.World) (a seid : Nat) (hI : Agent.Inv cfg w) (hT : Agent.TeidInv w) :
    Agent.TeidInv (Agent.deleteSession cfg w a seid).1 ∧ Agent.TeidInv (Agent.reportContextNotFound cfg w a seid) ∧
    Agent.TeidInv (Agent.shutdownConn cfg w a) :=
  ⟨hT.ends (Agent.stepReq_ends cfg w (.del a seid) hI.storeWf rfl), hT.ends (Agent.stepReq_ends cfg w (.report a seid) hI.storeWf rfl),
    hT.ends (Agent.stepReq_ends cfg w (.shutdown a) hI.storeWf rfl)⟩

/-- **from start-up on, along every history** of association setups, PFD updates, establishments, deletions, reports and
association endings (any number of associations and sessions; envelope as in C03: stored sessions have distinct SEIDs and
match keys): the TEIDs the agent has chosen and not yet released are non-zero, pairwise different across all associations,
and in use in the allocator — so none of them can be chosen again (`alloc_fresh`); and nothing else is in use: no TEID is ever leaked -/
theorem chosen_teids_distinct_along_every_history (cfg : Agent.Cfg) (pool : Option Pool.P) (g : Teid.G) (hg : g.offset < Agent.M)
    (hfresh : ∀ x, g.used x = false) (evs : List Agent.Ev) (henv : Agent.EnvOK cfg { pool := pool, teid := g } evs) :
    let w := evs.foldl (Agent.stepEv cfg) { pool := pool, teid := g }
    (Agent.chosen w).Nodup ∧ (∀ t ∈ Agent.chosen w, 1 ≤ t ∧ w.teid.used (t - 1) = true) ∧
    (∀ x, w.teid.used x = true → x + 1 ∈ Agent.chosen w) := by
  have h := Agent.inv_teid_run cfg evs { pool := pool, teid := g } (Agent.Inv.start cfg pool g) (Agent.FarWf.start pool g)
    (Agent.TeidInv.start pool g hg hfresh) henv
  exact h.2.held

-- non-vacuity: an establishment with a CHOOSE F-TEID on the uplink PDR chooses TEID 1 on a fresh allocator
example : Agent.chosen (Agent.establish { accessIP := 0xC6120101, coreIP := 0x7F000001, ueAlloc := false, endMarker := false, qci := [] }
    { conns := [(0, { remoteNode := "smf" })] } 0 77
    { nodeID := "smf", cpSeid := 1, cpIP := 1,
      pdrs := [{ id := 1, prec := 1, srcIface := some 0, fteid := some (true, 0, 0), ueip := some (2, 0x0A3C0001), farID := 1 }],
      fars := [{ id := 1, action := 2, fwd := some { dst := some 1 } }], qers := [] }).1 = [1] := by decide +kernel

/-- a Session Modification that is refused — at whatever point: a rule that does not parse, a Remove PDR / FAR / QER naming an unknown
rule after other removals were already applied to the handler's copy — releases no TEID and leaves the store as it was: the TEID of
a PDR that stays stored stays in use -/
theorem refused_modification_releases_no_teid (cfg : Agent.Cfg) (w : Agent.World) (a : Nat) (r : Agent.ModReq)
    (hrej : (Agent.modify cfg w a r).reply.cause ≠ Agent.causeAccepted) :
    (Agent.modify cfg w a r).world.conns = w.conns ∧ (Agent.modify cfg w a r).world.teid = w.teid :=
  Agent.refused_modification_commits_nothing cfg w a r hrej

/-- the Session Modification handler never takes a TEID: for EVERY request (any mix of IEs, CHOOSE flags included, accepted or
refused) no free TEID becomes marked in use and the cursor stays where it was — a modification can only return TEIDs. So the only
place a TEID is chosen is the establishment's PDR loop, which `alloc_fresh` / `establishment_keeps_chosen_teids_distinct` cover. -/
theorem modification_allocates_no_teid (cfg : Agent.Cfg) (w : Agent.World) (a : Nat) (r : Agent.ModReq) :
    (∀ x, (Agent.modify cfg w a r).world.teid.used x = true → w.teid.used x = true) ∧
    (Agent.modify cfg w a r).world.teid.offset = w.teid.offset :=
  Agent.modify_allocates_no_teid cfg w a r

/-- and no other request does either: deletions, reports, association setups and endings, PFD updates only ever clear marks — a TEID
in use after any non-establishment request was in use before it -/
theorem only_establishment_takes_teids (cfg : Agent.Cfg) (w : Agent.World) (q : Agent.Req) (hq : q.isEst = false) (x : Nat)
    (h : (Agent.stepReq cfg w q).teid.used x = true) : w.teid.used x = true := by
  cases hm : q.mayAllocate with
  | false =>
    rw [Agent.stepReq_drops cfg w q hm] at h
    exact ((Agent.freeAll_used_iff _ _ x).mp h).1
  | true =>
    cases q with
    | est a lseid r => cases hq
    | mod a r => exact (Agent.modify_allocates_no_teid cfg w a r).1 x h
    | _ => cases hm

section
open Agent
def exCfgT : Cfg := { accessIP := 0xC6120101, coreIP := 0x7F000001, ueAlloc := false, endMarker := false, qci := [] }
def exWT : World := (establish exCfgT { conns := [(0, { remoteNode := "smf" })] } 0 77
    { nodeID := "smf", cpSeid := 1, cpIP := 1,
      pdrs := [{ id := 1, prec := 1, srcIface := some 0, fteid := some (true, 0, 0), ueip := some (2, 0x0A3C0001), farID := 1 }],
      fars := [{ id := 1, action := 2, fwd := some { dst := some 1 } }], qers := [] }).1
-- non-vacuity: Remove PDR 1 (its TEID was chosen by the UP) followed by Remove QER 999 (unknown) is refused, and TEID 1 stays in use
example : (modify exCfgT exWT 0 { seid := 77, removePdrs := [1], removeQers := [999] }).reply.cause ≠ causeAccepted ∧
    (modify exCfgT exWT 0 { seid := 77, removePdrs := [1], removeQers := [999] }).world.teid.used 0 = true ∧
    -- while the accepted removal does return it
    (modify exCfgT exWT 0 { seid := 77, removePdrs := [1] }).reply.cause = causeAccepted ∧
    (modify exCfgT exWT 0 { seid := 77, removePdrs := [1] }).world.teid.used 0 = false := by decide +kernel
end

end Props.C07
