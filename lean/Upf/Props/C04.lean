import Upf.Model.AgentUp4
import Upf.Proofs.Up4Start
import Upf.Proofs.Up4Build
import Upf.Proofs.Up4Refs
/-!
# C04 — UP4 tables are the image of the live sessions' rules

The full statement — `tables = image(live sessions)` after every accepted request of every history — is NOT a theorem
of the model of the current code: the correspondence run finds histories on which the real plug-in (and the model, which
predicts it) leaves the switch different from the image (a refused request is not rolled back; the reference of a FAR
whose tunnel changed is never dropped; Remove PDR deletes a shared sessions entry; a changed application filter keeps
its old reference). They are listed in known_findings.json and reported as KNOWN-FINDING by the check. What is proved
here is the part of the statement that is decision logic and reference counting, for all inputs (a partial proof of the
property in the sense of DESIGN.md 2.2; the theorems are named for what they say, none carries the suffix `…_partial`); the image itself is decided per observed history by the acceptor (`Check/P4.lean`, `imageFindings`), which
compares the harness' P4Runtime server with `Agent4.pdrImage` after every response.
-/
namespace C04
open Up4 Agent

/-- the action of a terminations entry follows FAR and QER, uplink: drop iff the FAR drops or the uplink gate is closed;
otherwise forward with the traffic class, the application meter cell and the PDR's counter -/
theorem uplink_termination_action (p : Pdr) (m : Meter) (f : Far) (appID qfi tc : Nat) (q : Qer) (ha : p.srcIface = Sdf.access) :
    ∃ e, buildTerminations p m f appID qfi tc q = some e ∧
      e.table = Gen.P4Constants.TablePreQosPipeTerminationsUplink ∧
      e.ms = [⟨1, .exact, p.ueAddress, 0, 4⟩, ⟨2, .exact, appID, 0, 1⟩] ∧
      (if drops f || q.ulStatus == gateClosed
       then e.action = Gen.P4Constants.ActionPreQosPipeUplinkTermDrop ∧ e.ps = [(1, p.ctrID, 4)]
       else e.action = Gen.P4Constants.ActionPreQosPipeUplinkTermFwd ∧ e.ps = [(2, tc, 1), (3, m.ul, 4), (1, p.ctrID, 4)]) :=
  ⟨_, buildTerminations_uplink p m f appID qfi tc q ha, rfl, rfl, by cases (drops f || q.ulStatus == gateClosed) <;> simp⟩

/-- downlink: drop iff the FAR drops or the downlink gate is closed; otherwise forward with the FAR's TEID, the QFI, the
traffic class, the application meter cell and the PDR's counter -/
theorem downlink_termination_action (p : Pdr) (m : Meter) (f : Far) (appID qfi tc : Nat) (q : Qer) (hc : p.srcIface = Sdf.core) :
    ∃ e, buildTerminations p m f appID qfi tc q = some e ∧
      e.table = Gen.P4Constants.TablePreQosPipeTerminationsDownlink ∧
      e.ms = [⟨1, .exact, p.ueAddress, 0, 4⟩, ⟨2, .exact, appID, 0, 1⟩] ∧
      (if drops f || q.dlStatus == gateClosed
       then e.action = Gen.P4Constants.ActionPreQosPipeDownlinkTermDrop ∧ e.ps = [(1, p.ctrID, 4)]
       else e.action = Gen.P4Constants.ActionPreQosPipeDownlinkTermFwd ∧
            e.ps = [(2, f.tunnelTEID, 4), (3, qfi, 1), (4, tc, 1), (5, m.dl, 4), (1, p.ctrID, 4)]) :=
  ⟨_, buildTerminations_downlink p m f appID qfi tc q hc, rfl, rfl, by cases (drops f || q.dlStatus == gateClosed) <;> simp⟩

/-- a sessions entry sits under the N3 address and TEID of an uplink PDR … -/
theorem uplink_sessions_entry (p : Pdr) (m : Meter) (peer : Nat) (buf : Bool) (ha : p.srcIface = Sdf.access) :
    ∃ e, buildSessions p m peer buf = some e ∧ e.table = Gen.P4Constants.TablePreQosPipeSessionsUplink ∧
      e.ms = [⟨1, .exact, p.tunnelIP4Dst, 0, 4⟩, ⟨2, .exact, p.tunnelTEID, 0, 4⟩] ∧
      e.action = Gen.P4Constants.ActionPreQosPipeSetSessionUplink ∧ e.ps = [(1, m.ul, 4)] :=
  ⟨_, buildSessions_uplink p m peer buf ha, rfl, rfl, rfl, rfl⟩

/-- … and under the UE address of a downlink PDR: buffering iff the FAR buffers, otherwise towards the tunnel peer -/
theorem downlink_sessions_entry (p : Pdr) (m : Meter) (peer : Nat) (buf : Bool) (hc : p.srcIface = Sdf.core) :
    ∃ e, buildSessions p m peer buf = some e ∧ e.table = Gen.P4Constants.TablePreQosPipeSessionsDownlink ∧
      e.ms = [⟨1, .exact, p.ueAddress, 0, 4⟩] ∧
      (if buf then e.action = Gen.P4Constants.ActionPreQosPipeSetSessionDownlinkBuff ∧ e.ps = [(1, m.dl, 4)]
       else e.action = Gen.P4Constants.ActionPreQosPipeSetSessionDownlink ∧ e.ps = [(1, peer, 1), (2, m.dl, 4)]) :=
  ⟨_, buildSessions_downlink p m peer buf hc, rfl, rfl, by cases buf <;> simp⟩

/-- the tunnel peer entry carries the access address, the FAR's outer-header address and port -/
theorem tunnel_peer_entry (id : Nat) (t : TP) :
    ∃ e, buildPeer id t = some e ∧ e.table = Gen.P4Constants.TablePreQosPipeTunnelPeers ∧ e.ms = [⟨1, .exact, id, 0, 1⟩] ∧
      e.action = Gen.P4Constants.ActionPreQosPipeLoadTunnelParam ∧ e.ps = [(1, t.src, 4), (2, t.dst, 4), (3, t.port, 2)] :=
  ⟨_, buildPeer_eq id t, rfl, rfl, rfl, rfl⟩

/-- the last user leaves: the peer is forgotten and its ID goes back to the pool (the DELETE is issued whatever it answers) -/
theorem last_user_removes_peer (cfg : Cfg4) (c : Ctx) (f : Far) (pr : Shared) (e : Entry)
    (hg : mapGet c.st.peers (tpOf cfg f) = some pr) (hu : pr.usedBy.filter (· != (f.fseID, f.farID)) = [])
    (hb : buildPeer pr.id (tpOf cfg f) = some e) :
    mapGet (removePeer cfg c f).st.peers (tpOf cfg f) = none ∧ (removePeer cfg c f).st.peerPool = c.st.peerPool ++ [pr.id] ∧
    ∃ r, (removePeer cfg c f).log = c.log ++ [r] ∧ r.ups = [⟨.delete, .tbl e⟩] := by
  obtain ⟨hm, -⟩ | ⟨pr', hm, ⟨h, -⟩ | ⟨-, e1, ⟨e', hb', r, hl⟩, e2⟩⟩ := (removePeer_spec cfg c f).2
  · rw [hg] at hm; cases hm
  · cases hg.symm.trans hm
    exact h.elim (absurd hu) fun h => by rw [hb] at h; cases h
  · cases hg.symm.trans hm
    cases hb.symm.trans hb'
    exact ⟨e2 ▸ mapGet_mapDel_self .., e1, r, hl⟩

/-- another user remains: nothing is written, the peer stays, only the reference is dropped -/
theorem shared_peer_stays (cfg : Cfg4) (c : Ctx) (f : Far) (pr : Shared)
    (hg : mapGet c.st.peers (tpOf cfg f) = some pr) (hu : pr.usedBy.filter (· != (f.fseID, f.farID)) ≠ []) :
    (removePeer cfg c f).log = c.log ∧
    mapGet (removePeer cfg c f).st.peers (tpOf cfg f) = some { pr with usedBy := pr.usedBy.filter (· != (f.fseID, f.farID)) } ∧
    (removePeer cfg c f).st.peerPool = c.st.peerPool := by
  obtain ⟨hm, -⟩ | ⟨pr', hm, ⟨-, e1, e3, e2⟩ | ⟨hu', -⟩⟩ := (removePeer_spec cfg c f).2
  · rw [hg] at hm; cases hm
  · cases hg.symm.trans hm
    exact ⟨e3, e2 ▸ mapGet_mapPut_self .., e1⟩
  · cases hg.symm.trans hm
    exact absurd hu' hu

/-- a second user of a known peer: the entry is re-written with the SAME ID (MODIFY), no ID is taken -/
theorem known_peer_is_shared (cfg : Cfg4) (c : Ctx) (f : Far) (pr : Shared) (e : Entry)
    (hg : mapGet c.st.peers (tpOf cfg f) = some pr) (hb : buildPeer pr.id (tpOf cfg f) = some e) :
    (addOrUpdatePeer cfg c f).1.st.peerPool = c.st.peerPool ∧
    mapGet (addOrUpdatePeer cfg c f).1.st.peers (tpOf cfg f) = some { pr with usedBy := pairAdd pr.usedBy (f.fseID, f.farID) } := by
  obtain ⟨pr', hm, e1, e2⟩ | ⟨hm, -⟩ | ⟨id, hm, -⟩ := (addOrUpdatePeer_spec cfg c f).2
  · cases hg.symm.trans hm
    exact ⟨e1, e2 ▸ mapGet_mapPut_self ..⟩
  · rw [hg] at hm; cases hm
  · rw [hg] at hm; cases hm

/-! ### tunnel peers: "present iff at least one live rule uses it", the bookkeeping half

A FAR *uses* a peer when it names a tunnel towards the access network (`namesTunnel`), whatever its action: the plug-in
builds and deletes a rule's entries only while the peer of its FAR is known (`entries_need_the_peer`). -/

/-- an accepted establishment leaves every tunnel-naming FAR it carried with a reference on its peer -/
theorem created_far_holds_its_peer (cfg : Cfg4) (c : Ctx) (all updated : Rules) (ok : (sendCreate cfg c all updated).2.2 = true)
    (f : Far) (hf : f ∈ updated.fars) (hn : namesTunnel f) : HasRef cfg (sendCreate cfg c all updated).1.st f := by
  obtain ⟨c1, c2, c3, pdrs, -, -, h3, hs⟩ := sendCreate_accepted cfg c all updated ok
  rw [hs]
  exact HasRef.of_frame (modifyFwd_frame ..) (updatePeers_refs cfg c2 updated.fars h3 f hf hn)

/-- so does an accepted modification for the FARs it created or updated -/
theorem updated_far_holds_its_peer (cfg : Cfg4) (c : Ctx) (all updated : Rules) (ok : (sendUpdate cfg c all updated).2 = true)
    (f : Far) (hf : f ∈ updated.fars) (hn : namesTunnel f) : HasRef cfg (sendUpdate cfg c all updated).1.st f := by
  obtain ⟨c3, h3, hs⟩ := sendUpdate_accepted cfg c all updated ok
  rw [hs]
  exact HasRef.of_frame (modifyFwd_frame ..) (updatePeers_refs cfg _ updated.fars h3 f hf hn)

/-- releasing the peers of removed FARs never takes the reference of another FAR (another session, or another FAR ID of the
same session) — in particular a peer some other FAR still names is not deleted under it -/
theorem removal_keeps_other_references (cfg : Cfg4) (g : Far) (fs : List Far) (c : Ctx)
    (hd : ∀ f ∈ fs, (g.fseID, g.farID) ≠ (f.fseID, f.farID)) (h : HasRef cfg c.st g) :
    HasRef cfg (fs.foldl (removePeer cfg) c).st g := by
  induction fs generalizing c with
  | nil => exact h
  | cons f rest ih =>
    exact ih _ (fun f' hf' => hd f' (List.mem_cons_of_mem _ hf')) (removePeer_keeps_others cfg c f g (hd f (List.mem_cons_self ..)) h)

/-- requests of other sessions only add references -/
theorem later_requests_keep_references (cfg : Cfg4) (g : Far) (fs : List Far) (c : Ctx) (h : HasRef cfg c.st g) :
    HasRef cfg (updatePeers cfg c fs).1.st g :=
  updatePeers_hasRef cfg c fs g h

/-- the entries of a PDR whose FAR names a tunnel are built (for INSERT, MODIFY and DELETE alike) only while the FAR's peer is known:
the condition under which the peer is required is the one under which the reference is taken -/
theorem entries_need_the_peer (cfg : Cfg4) (fars : List Far) (qers : List Qer) (op : Op) (st : St) (p : Pdr) (es : List Entry) (far : Far)
    (hf : fars.find? (·.farID = p.farID) = some far) (ht : namesTunnel far)
    (h : (prepare cfg fars qers op st p).2 = some es) : (mapGet st.peers (tpOf cfg far)).isSome := by
  obtain ⟨far', hf', hguard⟩ := prepare_some_far cfg fars qers op st p (by rw [h]; nofun)
  cases hf.symm.trans hf'
  cases hp : mapGet st.peers (tpOf cfg far) with
  | some _ => rfl
  | none => exact absurd ⟨by rw [hp]; rfl, ht.1, ht.2⟩ hguard

def exCfg : Cfg4 := { accessIP := 0xC6120101, accessLen := 32, uePool := (0x0A3C0000, 16), sliceID := 0, defaultTC := 3, qfiToTC := [] }
def exFar : Far := { farID := 2, fseID := 77, applyAction := 0x0C, dstIntf := 0, tunnelTEID := 80100, tunnelIP4Dst := 0xC6120109, tunnelPort := 2152 }
def exCtx : Ctx := { st := { peerPool := [2, 3] } }

/-- the premises are satisfiable: a buffering FAR (BUFF|NOCP) that names a gNB takes a peer ID and holds the reference -/
example : (exFar.dstIntf = 0 ∧ exFar.tunnelTEID ≠ 0) ∧ (updatePeers exCfg exCtx [exFar]).2 = true ∧
    (mapGet (updatePeers exCfg exCtx [exFar]).1.st.peers (tpOf exCfg exFar)).map (·.usedBy) = some [(77, 2)] := by
  decide

/-- table entries left behind by a previous, killed incarnation are cleared at start-up: whatever the switch held, after a
start-up whose Writes are served every entry of the seven tables the agent owns is one of the two interfaces entries
(N3 address, UE pool) it has just written -/
theorem restart_clears_tables (cfg : Cfg4) (srv : Srv) (ue n3 : Entry)
    (hue : buildInterface cfg.uePool.1 cfg.uePool.2 cfg.sliceID true = some ue)
    (hn3 : buildInterface cfg.accessIP cfg.accessLen cfg.sliceID false = some n3)
    (e : Entry) (he : e ∈ (start cfg srv []).1.st.srv.entries) (ht : e.table ∈ clearedTables) : e = ue ∨ e = n3 := by
  obtain ⟨srv', hst, hsrv⟩ := start_st cfg srv []
  have he' : e ∈ srv'.entries := by rcases hst with h | h <;> rw [h] at he <;> exact he
  rcases hsrv e he' with h | h | h
  · -- left by the clearing Write, which was served: not in a table the agent owns
    rw [write_deletes _ rfl] at h
    have hmem := List.mem_filter.mp h
    have : (clearedTables.flatMap fun t => srv.entries.filter (·.table == t)).any (fun d => e.key == d.key) = true :=
      List.any_eq_true.mpr ⟨e, List.mem_flatMap.mpr ⟨e.table, ht, List.mem_filter.mpr ⟨hmem.1, by simp⟩⟩, by simp⟩
    simp [this] at hmem
  · exact Or.inl (Option.some.inj (hue.symm.trans h)).symm
  · exact Or.inr (Option.some.inj (hn3.symm.trans h)).symm

/-- the traffic class is the one configured for the QFI, else the default -/
theorem traffic_class_choice (cfg : Cfg4) (qfi : Nat) :
    (mapGet cfg.qfiToTC qfi).getD cfg.defaultTC = match mapGet cfg.qfiToTC qfi with | some tc => tc | none => cfg.defaultTC := by
  cases mapGet cfg.qfiToTC qfi <;> rfl

end C04
