import Upf.Proofs.ModWorld
import Upf.Proofs.Keeps
import Upf.Proofs.AgentMarker
import Std.Data.String.ToNat
/-!
C03, agent level, Session Modifications that update FARs only (handover, idle / active transitions, action changes): the
farLookup entries are upserted under the keys they already have, so the tables stay the image of the store.
-/
namespace Agent

/-- farLookup keys are `"<farID>,<fseID>"` -/
theorem commaSep2_inj (a b c : Nat) (h : commaSep [a, c] = commaSep [b, c]) : a = b := by
  have e : ∀ x : Nat, commaSep [x, c] = toString x ++ ("," ++ toString c) := by
    intro x; show _ = _; rw [← String.append_assoc]; rfl
  rw [e a, e b] at h
  have h2 := congrArg String.toList h
  simp only [String.toList_append] at h2
  have h3 := List.append_cancel_right h2
  exact Nat.repr_inj.mp (String.toList_inj.mp h3)

/-- within one session the farLookup key determines the FAR ID -/
theorem farKey_inj (f g : Far) (h : f.fseID = g.fseID) : (farEntry f).1 = (farEntry g).1 ↔ f.farID = g.farID := by
  unfold farEntry
  constructor
  · intro hk; dsimp only at hk; rw [h] at hk; exact commaSep2_inj _ _ _ hk
  · intro hid; dsimp only; rw [h, hid]

/-- the entry list `farKV st` is read as a `Table` here, so that `Table.keys_upsert` and `lastVal_upsert` speak about it -/
theorem farKV_replaceFar (n : Nat) (f : Far) (hf : f.fseID = n) (st : List Far) (hst : ∀ q ∈ st, q.fseID = n)
    (hany : ∃ q ∈ st, q.farID = f.farID) : farKV (replaceFar st f) = Table.upsert (farKV st) (farEntry f).1 (farEntry f).2 := by
  have hkey : ∀ q ∈ st, (farEntry q).1 = (farEntry f).1 ↔ q.farID = f.farID := fun q hq => farKey_inj q f (by rw [hst q hq, hf])
  obtain ⟨q0, hq0, hq0f⟩ := hany
  unfold Table.upsert replaceFar farKV
  rw [if_pos (List.any_eq_true.mpr ⟨_, List.mem_map_of_mem hq0, by simpa using (hkey q0 hq0).mpr hq0f⟩), List.map_map, List.map_map]
  refine List.map_congr_left fun q hq => ?_
  by_cases h : q.farID = f.farID
  · simp [h, (hkey q hq).mpr h]
  · simp [h, mt (hkey q hq).mp h]

structure FarLoop (n : Nat) (L st sent : List Far) : Prop where
  fse : ∀ q ∈ st, q.fseID = n
  keys : (farKV st).map (·.1) = (farKV L).map (·.1)
  val : ∀ k, lastVal (farKV st) k = (lastVal (farKV sent) k).or (lastVal (farKV L) k)

theorem FarLoop.foldl_stepFar (n : Nat) (L : List Far) : ∀ (ups : List Far) (acc : List Far × List Far × List Marker), (∀ f ∈ ups, f.fseID = n) →
    FarLoop n L acc.1 acc.2.1 → FarLoop n L (ups.foldl stepFar acc).1 (ups.foldl stepFar acc).2.1
  | [], _, _, h => h
  | f :: rest, acc, hu, h => by
    rw [List.foldl_cons]
    obtain ⟨hf, hrest⟩ := List.forall_mem_cons.mp hu
    refine FarLoop.foldl_stepFar n L rest _ hrest ?_
    unfold stepFar
    cases hfind : acc.1.find? (·.farID = f.farID) with
    | none => exact h
    | some old =>
      -- a known ID: on the entries, an upsert under a key the list has
      have hold := List.mem_of_find?_eq_some hfind
      have hid : old.farID = f.farID := key_of_find? hfind
      have hkv := farKV_replaceFar n f hf acc.1 h.fse ⟨old, hold, hid⟩
      have hk : (farEntry f).1 ∈ (farKV acc.1).map (·.1) :=
        (farKey_inj old f (by rw [h.fse old hold, hf])).mpr hid ▸ List.mem_map_of_mem (List.mem_map_of_mem hold)
      refine ⟨fun q hq => ?_, by rw [hkv, Table.keys_upsert _ _ _ hk]; exact h.keys, fun k => ?_⟩
      · obtain ⟨x, hx, rfl⟩ := List.mem_map.mp hq
        split
        · exact hf
        · exact h.fse x hx
      · have : farKV (acc.2.1 ++ [f]) = farKV acc.2.1 ++ [farEntry f] := List.map_append
        rw [hkv, lastVal_upsert, this, lastVal_append, lastVal_single, h.val k]
        split <;> rfl

theorem modify_farOnly_ok (cfg : Cfg) (w : World) (a : Nat) (r : ModReq) (s0 : Session) (hr : FarOnly r)
    (h : (w.conn a).sessions.find? (·.lseid = r.seid) = some s0)
    (hstable : markSessionQer s0.pdrs s0.qers = (s0.qers, s0.pdrs)) (uf : List Far)
    (hu : mapFars cfg r.seid (fseidIPOf' r) true r.updateFars = .ok uf) :
    (modify cfg w a r).world =
      { w with conns := putSession w a r.seid (afterMod r s0 s0.pdrs (updFars s0.fars uf).1 s0.qers),
               tables := sendAdd cfg w.tables [] (updFars s0.fars uf).2.1 [] } := by
  obtain ⟨hcp, hcf, hcq⟩ := hr.noCreate
  have hq : createdQers r = [] := by unfold createdQers; rw [hcq]; rfl
  have := modify_parsed cfg w a r s0 hr.noUpd h [] w.pool [] uf (by rw [hcp]; rfl) (by rw [hcf]; rfl) hu (.nil hcq hstable)
  rw [hr.removeMod_eq] at this
  simpa only [hq, List.append_nil, List.nil_append, sendDel, freeAll, List.foldl_nil] using this

/-- `hstable`: the open finding "session-QER relabelled" is excluded; `hwf` is what `parseFAR` guarantees (`FarWf`) -/
theorem modFar_step (cfg : Cfg) (w : World) (a : Nat) (r : ModReq) (s0 : Session) (hI : Inv cfg w) (hr : FarOnly r)
    (h : (w.conn a).sessions.find? (·.lseid = r.seid) = some s0)
    (hstable : markSessionQer s0.pdrs s0.qers = (s0.qers, s0.pdrs))
    (hwf : ∀ q ∈ s0.fars, q.fseID = s0.lseid) : Inv cfg (modify cfg w a r).world ∧ Keeps w (modify cfg w a r).world := by
  have hl : s0.lseid = r.seid := key_of_find? h
  rcases modify_refused_or_parsed cfg w a r s0 hr.noUpd.1 h with hw | ⟨_, _, _, uf, _, _, hu⟩
  · rw [hw, hr.noCreate.1]; exact ⟨hI, .refl⟩
  · have hw := modify_farOnly_ok cfg w a r s0 hr h hstable uf hu
    have loop := updFars_eq s0.fars uf ▸ FarLoop.foldl_stepFar s0.lseid s0.fars uf (s0.fars, [], [])
      (hl ▸ mapFars_fse hu) ⟨hwf, rfl, fun _ => rfl⟩
    have T : Trans w (modify cfg w a r).world [s0] [afterMod r s0 s0.pdrs (updFars s0.fars uf).1 s0.qers] :=
      .replace hI.storeWf h (by rw [hw])
    -- the stored session keeps its keys (only its FAR list changed); under each lies the sent value if there is one, else the old one
    have hkeys : ∀ X, (afterMod r s0 s0.pdrs (updFars s0.fars uf).1 s0.qers).keysOf cfg X = s0.keysOf cfg X := fun X => by
      cases X
      · rfl
      · exact loop.keys
      · rfl
      · rfl
    refine ⟨hI.replace T rfl (fun _ _ _ X k hk => .inl (hkeys X ▸ hk)) fun R hp hp' hi => ?_,
      .replace T rfl (D := []) (hg := by rw [hw]; rfl) (hc := .refl _) (hk := fun _ => by rw [hw]; exact .inl) (hf := fun _ => loop.fse)⟩
    rw [hw]
    refine ImgOf.upsert [s0] [_] (.ofRules [] (updFars s0.fars uf).2.1 []) hi hp hp' fun X k => ?_
    rw [valOf_single, valOf_single]
    -- only FARs are sent, and only the FAR list changed
    cases X
    · rfl
    · exact loop.val k
    · rfl
    · rfl

end Agent
