import Upf.Proofs.AgentWorld
/-!
The stored sessions of all associations (`allSessions`) and what a handler does to them: a store transition (`Trans`) — some stored
sessions leave, some enter, the rest stays, up to the order in which `allSessions` lists them. An invariant over the stored sessions
is shown once for a transition (`Inv.of_trans`, `TeidInv.of_trans`, `Owned.of_trans`, `FarWf.of_trans`).
-/
namespace Agent

def flat (l : List (Nat × Conn)) : List Session := l.flatMap (·.2.sessions)
def allSessions (w : World) : List Session := flat w.conns

theorem setL_cons_ne (e : Nat × Conn) (l : List (Nat × Conn)) (a : Nat) (c : Conn) (h : e.1 ≠ a) :
    setL (e :: l) a c = e :: setL l a c := by
  unfold setL
  by_cases hl : l.any (·.1 = a) = true <;> simp [hl, h]

theorem flat_setL (a : Nat) : ∀ (l : List (Nat × Conn)), (l.map (·.1)).Nodup →
    (flat l).Perm ((connOf l a).sessions ++ flat (l.filter (·.1 ≠ a))) ∧
    ∀ c : Conn, (flat (setL l a c)).Perm (c.sessions ++ flat (l.filter (·.1 ≠ a)))
  | [], _ => ⟨by simp [flat, connOf], fun c => by simp [flat, setL]⟩
  | e :: l, hnd => by
    obtain ⟨hnot, hnd'⟩ := List.nodup_cons.mp hnd
    by_cases he : e.1 = a
    · -- the association is `e`: no later record has its index
      have habs : a ∉ l.map (·.1) := he ▸ hnot
      have hf : (e :: l).filter (·.1 ≠ a) = l := by
        rw [List.filter_cons_of_neg (by simpa using he)]
        exact List.filter_eq_self.mpr fun x hx => by simpa using fun e : x.1 = a => habs (e ▸ List.mem_map_of_mem hx)
      rw [hf]
      refine ⟨by simp [flat, connOf, he], fun c => ?_⟩
      unfold setL
      simp only [List.any_cons, he, decide_true, Bool.true_or, if_true, List.map_cons]
      rw [map_replace_key_absent (·.1) a (a, c) l habs]
      simp [flat]
    · obtain ⟨h1, h2⟩ := flat_setL a l hnd'
      have hmid : ∀ x y : List Session, (e.2.sessions ++ (x ++ y)).Perm (x ++ (e.2.sessions ++ y)) := fun x y => by
        rw [← List.append_assoc, ← List.append_assoc]; exact List.Perm.append_right _ List.perm_append_comm
      rw [List.filter_cons_of_pos (by simpa using he), show connOf (e :: l) a = connOf l a by simp [connOf, he]]
      exact ⟨(List.Perm.append_left _ h1).trans (hmid _ _), fun c => by
        rw [setL_cons_ne e l a c he]; exact (List.Perm.append_left _ (h2 c)).trans (hmid _ _)⟩

theorem nodup_keys_setL (a : Nat) (c : Conn) (l : List (Nat × Conn)) (h : (l.map (·.1)).Nodup) : ((setL l a c).map (·.1)).Nodup := by
  unfold setL
  by_cases hl : l.any (·.1 = a) = true
  · rw [if_pos hl]
    have : (l.map fun e => if e.1 = a then (a, c) else e).map (·.1) = l.map (·.1) := by
      rw [List.map_map]; apply List.map_congr_left; intro e _
      by_cases he : e.1 = a <;> simp [he]
    rw [this]; exact h
  · rw [if_neg hl, List.map_append]
    have : a ∉ l.map (·.1) := by
      intro hm; obtain ⟨e, he, hea⟩ := List.mem_map.mp hm
      exact hl (List.any_eq_true.mpr ⟨e, he, by simpa using hea⟩)
    exact List.nodup_append.mpr ⟨h, by simp, fun x hx y hy e => this (by simp at hy; rw [← hy, ← e]; exact hx)⟩

theorem seid_split {seid : Nat} {l : List Session} {s : Session} (hp : l.Pairwise (fun x y => x.lseid ≠ y.lseid))
    (h : l.find? (·.lseid = seid) = some s) :
    l.Perm (s :: l.filter (·.lseid ≠ seid)) ∧
    ∀ s', (l.map fun x => if x.lseid = seid then s' else x).Perm (s' :: l.filter (·.lseid ≠ seid)) := by
  induction l with
  | nil => simp at h
  | cons x rest ih =>
    obtain ⟨hx', hp'⟩ := List.pairwise_cons.mp hp
    by_cases hx : x.lseid = seid
    · have hs : s = x := by simpa [List.find?_cons, hx] using h.symm
      have hne : ∀ y ∈ rest, ¬ y.lseid = seid := fun y hy e => hx' y hy (hx.trans e.symm)
      have hf : (x :: rest).filter (·.lseid ≠ seid) = rest := by
        rw [List.filter_cons_of_neg (by simpa using hx)]
        exact List.filter_eq_self.mpr fun y hy => by simpa using hne y hy
      have hm : ∀ s' : Session, (rest.map fun y => if y.lseid = seid then s' else y) = rest := fun s' => by
        exact (List.map_congr_left fun y hy => if_neg (hne y hy)).trans (List.map_id' rest)
      rw [hf, hs]
      exact ⟨.refl _, fun s' => by rw [List.map_cons, if_pos hx, hm]⟩
    · obtain ⟨ih1, ih2⟩ := ih hp' (by simpa [List.find?_cons, hx] using h)
      rw [List.filter_cons_of_pos (by simpa using hx)]
      exact ⟨(ih1.cons x).trans (.swap s x _), fun s' => by
        rw [List.map_cons, if_neg hx]; exact ((ih2 s').cons x).trans (.swap s' x _)⟩

/-- `keys` is a piece of the invariant of `w'`: every way of building a transition has it at hand, and each invariant needs it of `w'`
for the next transition -/
structure Trans (w w' : World) (old new : List Session) : Prop where
  keys : (w'.conns.map (·.1)).Nodup
  perm : ∃ R, (allSessions w).Perm (old ++ R) ∧ (allSessions w').Perm (new ++ R)

theorem Trans.mem_new {w w' : World} {old new : List Session} (T : Trans w w' old new) {x : Session} (h : x ∈ new) : x ∈ allSessions w' := by
  obtain ⟨R, _, p'⟩ := T.perm
  exact p'.mem_iff.mpr (List.mem_append_left _ h)

theorem Trans.mem_old {w w' : World} {old new : List Session} (T : Trans w w' old new) {x : Session} (h : x ∈ old) : x ∈ allSessions w := by
  obtain ⟨R, p, _⟩ := T.perm
  exact p.mem_iff.mpr (List.mem_append_left _ h)

theorem Trans.mem_before {w w' : World} {old new : List Session} (T : Trans w w' old new) {x : Session} (h : x ∈ allSessions w') :
    x ∈ new ∨ x ∈ allSessions w := by
  obtain ⟨R, p, p'⟩ := T.perm
  exact (List.mem_append.mp (p'.mem_iff.mp h)).imp_right fun h => p.mem_iff.mpr (List.mem_append_right _ h)

theorem Trans.mem_after {w w' : World} {old new : List Session} (T : Trans w w' old new) {x : Session} (h : x ∈ allSessions w) :
    x ∈ old ∨ x ∈ allSessions w' := by
  obtain ⟨R, p, p'⟩ := T.perm
  exact (List.mem_append.mp (p.mem_iff.mp h)).imp_right fun h => p'.mem_iff.mpr (List.mem_append_right _ h)

theorem Trans.of_conns_eq {w w' : World} (hk : (w.conns.map (·.1)).Nodup) (hc : w'.conns = w.conns) : Trans w w' [] [] :=
  ⟨hc ▸ hk, allSessions w, .refl _, by unfold allSessions; rw [hc]; exact .refl _⟩

theorem Trans.setL {w w' : World} {a : Nat} {c : Conn} {old new S : List Session} (hk : (w.conns.map (·.1)).Nodup)
    (hc : w'.conns = setL w.conns a c) (h1 : (w.conn a).sessions.Perm (old ++ S)) (h2 : c.sessions.Perm (new ++ S)) :
    Trans w w' old new := by
  obtain ⟨p1, p2⟩ := flat_setL a w.conns hk
  refine ⟨hc ▸ nodup_keys_setL a c _ hk, S ++ flat (w.conns.filter (·.1 ≠ a)), ?_, ?_⟩
  · rw [← List.append_assoc]; exact p1.trans (h1.append_right _)
  · unfold allSessions; rw [hc, ← List.append_assoc]; exact (p2 c).trans (h2.append_right _)

theorem Trans.forget {w w' : World} {a : Nat} (hk : (w.conns.map (·.1)).Nodup) (hc : w'.conns = w.conns.filter (·.1 ≠ a)) :
    Trans w w' (w.conn a).sessions [] :=
  ⟨hc ▸ (List.Sublist.map _ List.filter_sublist).nodup hk, flat (w.conns.filter (·.1 ≠ a)), (flat_setL a w.conns hk).1,
    by unfold allSessions; rw [hc]; rfl⟩

theorem mem_conn_all {w : World} {a : Nat} (hk : (w.conns.map (·.1)).Nodup) {s : Session} (h : s ∈ (w.conn a).sessions) : s ∈ allSessions w :=
  (flat_setL a w.conns hk).1.mem_iff.mpr (List.mem_append_left _ h)

theorem Trans.setL_sessions_eq {w w' : World} {a : Nat} {c : Conn} (hk : (w.conns.map (·.1)).Nodup) (hc : w'.conns = Agent.setL w.conns a c)
    (hs : c.sessions = (w.conn a).sessions) : Trans w w' [] [] := .setL hk hc (.refl _) (hs ▸ .refl _)

theorem Trans.append {w w' : World} {a : Nat} {s : Session} (hk : (w.conns.map (·.1)).Nodup)
    (hc : w'.conns = Agent.setL w.conns a { w.conn a with sessions := (w.conn a).sessions ++ [s] }) : Trans w w' [] [s] :=
  .setL hk hc (.refl _) List.perm_append_comm

structure StoreWf (w : World) : Prop where
  keys : (w.conns.map (·.1)).Nodup
  seids : ∀ a, (w.conn a).sessions.Pairwise (fun x y => x.lseid ≠ y.lseid)

theorem Trans.remove {w w' : World} {a seid : Nat} {s : Session} (hI : StoreWf w)
    (hfind : (w.conn a).sessions.find? (·.lseid = seid) = some s)
    (hc : w'.conns = Agent.setL w.conns a { w.conn a with sessions := (w.conn a).sessions.filter (·.lseid ≠ seid) }) : Trans w w' [s] [] :=
  .setL hI.keys hc (seid_split (hI.seids a) hfind).1 (.refl _)

theorem Trans.replace {w w' : World} {a seid : Nat} {s0 s' : Session} (hI : StoreWf w)
    (hfind : (w.conn a).sessions.find? (·.lseid = seid) = some s0) (hc : w'.conns = putSession w a seid s') :
    Trans w w' [s0] [s'] :=
  .setL hI.keys hc (seid_split (hI.seids a) hfind).1 ((seid_split (hI.seids a) hfind).2 s')

/-- sessions end: by a Session Deletion, a report answered "context not found", their association's ending -/
structure Ends (cfg : Cfg) (w w' : World) (ss : List Session) : Prop where
  toTrans : Trans w w' ss []
  drops : w' = { conns := w'.conns, tables := ss.foldl (fun t s => sendDel cfg t s.pdrs s.fars s.qers) w.tables,
                 teid := freeAll (ss.flatMap (·.pdrs)) w.teid, pool := ss.foldl (fun p s => freeAddr p s.lseid) w.pool }

end Agent
