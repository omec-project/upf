import Upf.Proofs.BessImage
import Upf.Proofs.FarWorld
import Upf.Proofs.TeidWorld
import Upf.Proofs.PoolWorld
/-!
`Keeps` for the kinds of steps a history has: an establishment, sessions ending, a stored session rewritten in place (every accepted
modification), a modification refused while parsing.
-/
namespace Agent

/-- what a step owes the invariants beside `Inv` that need the envelope (the pool invariant of C06 needs none: `stepReq_poolInv`) -/
structure Keeps (w w' : World) : Prop where
  farwf : FarWf w → FarWf w'
  teid : TeidInv w → TeidInv w'
  owned : Owned w → Owned w'

theorem Keeps.refl {w : World} : Keeps w w := ⟨id, id, id⟩

theorem Keeps.trans {w w' w'' : World} (K : Keeps w w') (K' : Keeps w' w'') : Keeps w w'' :=
  ⟨K'.farwf ∘ K.farwf, K'.teid ∘ K.teid, K'.owned ∘ K.owned⟩

theorem establish_keeps (cfg : Cfg) (w : World) (a lseid : Nat) (r : EstReq) (hk : (w.conns.map (·.1)).Nodup) :
    Keeps w (establish cfg w a lseid r).1 :=
  ⟨establish_farWf cfg w a lseid r hk, establish_teidInv cfg w a lseid r hk, establish_owned cfg w a lseid r hk⟩

theorem Ends.keeps {cfg : Cfg} {w w' : World} {ss : List Session} (E : Ends cfg w w' ss) : Keeps w w' :=
  ⟨fun hW => hW.of_trans E.toTrans (List.forall_mem_nil _), fun hT => hT.ends E, fun hO => hO.ends E⟩

/-- a modification refused while parsing moves only the pool -/
theorem Keeps.poolOnly {w w' : World} {p' : Option Pool.P} (e : w' = { w with pool := p' })
    (hk : ∀ k ∈ poolKeys p', k ∈ poolKeys w.pool ∨ ∃ s ∈ allSessions w, s.lseid = k) : Keeps w w' := by
  subst e
  exact ⟨id, fun hT => ⟨hT.off, hT.held⟩, fun hO k hk' => (hk k hk').elim (hO k) id⟩

/-- `D`: the PDRs of the old session that the new one does not keep -/
theorem Keeps.replace {w w' : World} {s0 s' : Session} (T : Trans w w' [s0] [s']) (hl : s'.lseid = s0.lseid) (D : List Pdr)
    (hg : w'.teid = freeAll D w.teid) (hc : (chosenL s0.pdrs).Perm (chosenL D ++ chosenL s'.pdrs))
    (hk : ∀ k ∈ poolKeys w'.pool, k ∈ poolKeys w.pool ∨ k = s0.lseid)
    (hf : (∀ q ∈ s0.fars, q.fseID = s0.lseid) → ∀ q ∈ s'.fars, q.fseID = s'.lseid) : Keeps w w' :=
  ⟨fun hW => hW.of_trans T fun _ hs => List.mem_singleton.mp hs ▸ hf (hW s0 (T.mem_old List.mem_cons_self)),
    fun hT => hT.release T D hg (by rwa [chosenS_single, chosenS_single]), fun hO => hO.replace T hl hk⟩

end Agent
