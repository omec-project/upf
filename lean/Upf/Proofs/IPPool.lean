import Upf.Model.IPPool
import Upf.Proofs.ListKeys
/-! C06: `IPPool.LookupOrAllocIP` / `DeallocIP` (pfcpiface/ip_pool.go) on a FIFO free list and an association list; the pool invariant over every operation sequence. -/

namespace Pool
open ListKeys

theorem lookup_none_not_key (p : P) (s : Nat) (h : lookup p s = none) : s ∉ p.inv.map (·.1) := by
  rw [lookup, Option.map_eq_none_iff, List.find?_eq_none] at h
  intro hm
  obtain ⟨x, hx, rfl⟩ := List.mem_map.mp hm
  exact h x hx (beq_self_eq_true _)

theorem lookup_some_mem (p : P) (s a : Nat) (h : lookup p s = some a) : (s, a) ∈ p.inv := by
  obtain ⟨⟨k, _⟩, hk, rfl⟩ := Option.map_eq_some_iff.mp h
  have hs := List.find?_some hk
  obtain rfl : k = s := beq_iff_eq.mp hs
  exact List.mem_of_find?_eq_some hk

theorem inv_alloc (base : List Nat) (p : P) (s : Nat) (h : Inv base p) : Inv base (alloc p s).2 := by
  unfold alloc
  split
  · exact h
  next hl =>
    split
    · exact h
    next a fs hf =>
      have hp := h.perm
      rw [hf] at hp
      exact ⟨List.perm_middle.trans hp, h.nodup, List.nodup_cons.mpr ⟨lookup_none_not_key p s hl, h.keys⟩⟩

theorem inv_dealloc (base : List Nat) (p : P) (s : Nat) (h : Inv base p) : Inv base (dealloc p s).2 := by
  unfold dealloc
  split
  · exact h
  next a hl =>
    have fp := (filter_perm p.inv s a h.keys (lookup_some_mem p s a hl)).map (·.2)
    refine ⟨.trans ?_ h.perm, h.nodup, (List.Sublist.map _ List.filter_sublist).nodup h.keys⟩
    rw [List.append_assoc]
    exact fp.append_left p.free

theorem inv_step (base : List Nat) (p : P) (op : Op) (h : Inv base p) : Inv base (step p op) := by
  cases op with
  | alloc s => exact inv_alloc base p s h
  | dealloc s => exact inv_dealloc base p s h

theorem reachable (base : List Nat) (h : base.Nodup) (ops : List Op) :
    Inv base (ops.foldl step { free := base, inv := [] }) := by
  have h0 : Inv base { free := base, inv := [] } := ⟨by simp, h, by simp⟩
  generalize ({ free := base, inv := [] } : P) = p at h0
  induction ops generalizing p with
  | nil => exact h0
  | cons o os ih => exact ih _ (inv_step base p o h0)

/-- exclusive: an address is never held by two sessions -/
theorem exclusive (base : List Nat) (p : P) (h : Inv base p) (s1 s2 a : Nat)
    (h1 : (s1, a) ∈ p.inv) (h2 : (s2, a) ∈ p.inv) : s1 = s2 :=
  have hv : (p.inv.map (·.2)).Nodup := (List.nodup_append.mp (h.perm.nodup_iff.mpr h.nodup)).2.1
  congrArg (·.1) (inj_of_nodup_map hv h1 h2 rfl)

/-- every address handed out comes from the pool, and refused only when nothing is free -/
theorem alloc_from_base (base : List Nat) (p : P) (h : Inv base p) (s a : Nat)
    (ha : (alloc p s).1 = some a) : a ∈ base := by
  refine h.perm.subset ?_
  unfold alloc at ha
  split at ha
  next a' hl =>
    cases ha
    exact List.mem_append_right _ (List.mem_map.mpr ⟨(s, a), lookup_some_mem p s a hl, rfl⟩)
  · split at ha <;> cases ha
    next hf => exact List.mem_append_left _ (hf ▸ List.mem_cons_self)

theorem refuse_iff_full (p : P) (s : Nat) :
    (alloc p s).1 = none ↔ (lookup p s = none ∧ p.free = []) := by
  unfold alloc
  split
  next hl => simp [hl]
  next hl => split <;> simp [*]

theorem sticky (p : P) (s a : Nat) (h : (alloc p s).1 = some a) :
    (alloc (alloc p s).2 s).1 = some a := by
  unfold alloc at h ⊢
  split at h
  next hl => cases h; simp [hl]
  next hl =>
    split at h <;> cases h
    simp [lookup]

#print axioms reachable
#print axioms exclusive
#print axioms sticky

end Pool
