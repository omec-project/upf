import Upf.Model.Denote
import Upf.Proofs.PortProduct
/-! C03, packet level: the pdrLookup entries `bess.addPDR` writes for a PDR (values, masks, priority `MaxUint32 − precedence`) match exactly the packets the PDR denotes. -/

namespace Tern

/-- for ALL packets: some written entry matches the packet iff the PDR denotes it -/
theorem entries_denote (p : PdrM) (es : List Entry) (h : pdrEntries p = some es) (k : Pkt) :
    (∃ e ∈ es, e.matches k) ↔ p.denotes k := by
  obtain ⟨rs, hc, rfl⟩ := Option.map_eq_some_iff.mp h
  rw [exists_mem_map, PdrM.denotes, ← product_cover _ _ rs hc]
  constructor
  · rintro ⟨r, hr, h1, h2, h3, h4, h5, h6, h7⟩
    exact ⟨h1, h2, h3, h4, h5, ⟨r, hr, h6⟩, h7⟩
  · rintro ⟨h1, h2, h3, h4, h5, ⟨r, hr, h6⟩, h7⟩
    exact ⟨r, hr, h1, h2, h3, h4, h5, h6, h7⟩

/-- priority = MaxUint32 − precedence orders entries as precedence orders PDRs (no wrap on uint32) -/
theorem priority_order (a b : BitVec 32) (h : a.toNat < b.toNat) :
    (0xFFFFFFFF#32 - b).toNat < (0xFFFFFFFF#32 - a).toNat := by
  rw [show 0xFFFFFFFF#32 = BitVec.allOnes 32 from rfl, BitVec.allOnes_sub_eq_not, BitVec.allOnes_sub_eq_not,
    BitVec.toNat_not, BitVec.toNat_not]
  exact Nat.sub_lt_sub_left (Nat.lt_of_lt_of_le h (Nat.le_pred_of_lt b.isLt)) h

#print axioms entries_denote
#print axioms priority_order

end Tern
