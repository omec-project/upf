import Upf.Proofs.Up4Requests
/-!
Tunnel-peer references (C04, "one tunnel_peers entry per distinct GTP peer, present iff a live rule uses it"):
after `updateTunnelPeersBasedOnFARs` succeeded, every FAR of the request that names a tunnel towards the access
network — whatever its action (forward, buffer or drop) — holds a reference on its peer, references only ever grow while peers are
added, and the rest of `sendCreate` / `sendUpdate` does not touch them. Together with `prepare`, which builds (and
deletes) a PDR's entries only while the peer of its FAR is known, a request that was accepted leaves every
tunnel-naming FAR it carried with a recorded peer.
-/
namespace Up4
open Agent

/-- the FAR holds a reference on the peer of its tunnel -/
def HasRef (cfg : Cfg4) (st : St) (f : Far) : Prop :=
  ∃ pr, mapGet st.peers (tpOf cfg f) = some pr ∧ (f.fseID, f.farID) ∈ pr.usedBy

/-- the FAR names a tunnel towards the access network -/
def namesTunnel (f : Far) : Prop := f.dstIntf = 0 ∧ f.tunnelTEID ≠ 0

theorem HasRef.of_frame {cfg : Cfg4} {g : Option Part} {s s' : St} {f : Far} (e : Frame g s s') (h : HasRef cfg s f)
    (ep : ∀ t : St, (t.but g).peers = t.peers := by intro; rfl) : HasRef cfg s' f :=
  e.keeps St.peers (fun ps => ∃ pr, mapGet ps (tpOf cfg f) = some pr ∧ (f.fseID, f.farID) ∈ pr.usedBy) h ep

theorem HasRef.put {cfg : Cfg4} {st : St} {g : Far} (h : HasRef cfg st g) (tp : TP) (pr' : Shared)
    (hk : ∀ pr, mapGet st.peers tp = some pr → (g.fseID, g.farID) ∈ pr.usedBy → (g.fseID, g.farID) ∈ pr'.usedBy) :
    HasRef cfg { st with peers := mapPut st.peers tp pr' } g := by
  obtain ⟨pg, hg, hmem⟩ := h
  by_cases e : tpOf cfg g = tp
  · exact ⟨pr', e ▸ mapGet_mapPut_self .., hk pg (e ▸ hg) hmem⟩
  · exact ⟨pg, (mapGet_mapPut_ne _ _ e).trans hg, hmem⟩

theorem HasRef.del {cfg : Cfg4} {st : St} {g : Far} (h : HasRef cfg st g) (tp : TP) (e : tpOf cfg g ≠ tp) :
    HasRef cfg { st with peers := mapDel st.peers tp } g := by
  obtain ⟨pg, hg, hmem⟩ := h
  exact ⟨pg, (mapGet_mapDel_ne _ e).trans hg, hmem⟩

theorem addOrUpdatePeer_ref (cfg : Cfg4) (c : Ctx) (f : Far) (ok : (addOrUpdatePeer cfg c f).2 = true) :
    HasRef cfg (addOrUpdatePeer cfg c f).1.st f := by
  obtain ⟨pr, -, -, e⟩ | ⟨-, h, -⟩ | ⟨id, -, -, ⟨h, -⟩ | e⟩ := (addOrUpdatePeer_spec cfg c f).2
  · exact ⟨_, e ▸ mapGet_mapPut_self .., (mem_pairAdd _ _ _).mpr (.inr rfl)⟩
  · cases h.symm.trans ok
  · cases h.symm.trans ok
  · exact ⟨_, e ▸ mapGet_mapPut_self .., List.mem_singleton.mpr rfl⟩

theorem addOrUpdatePeer_hasRef (cfg : Cfg4) (c : Ctx) (f g : Far) :
    HasRef cfg c.st g → HasRef cfg (addOrUpdatePeer cfg c f).1.st g := by
  intro h
  unfold HasRef
  obtain ⟨pr, hm, -, e⟩ | ⟨-, -, -, e⟩ | ⟨id, hm, -, ⟨-, e⟩ | e⟩ := (addOrUpdatePeer_spec cfg c f).2 <;> rw [e]
  · exact h.put _ _ fun p0 e hin => by rw [hm] at e; cases e; exact (mem_pairAdd _ _ _).mpr (.inl hin)
  · exact h
  · exact h
  · exact h.put _ _ fun p0 e => by rw [hm] at e; cases e

theorem updatePeers_hasRef (cfg : Cfg4) (c : Ctx) (fs : List Far) (g : Far) : HasRef cfg c.st g → HasRef cfg (updatePeers cfg c fs).1.st g :=
  updatePeers_chain (Chain.inv (HasRef cfg · g)) cfg (fun c f => addOrUpdatePeer_hasRef cfg c f g) c fs

theorem updatePeers_refs (cfg : Cfg4) : ∀ (c : Ctx) (fs : List Far) {c' : Ctx}, updatePeers cfg c fs = (c', true) →
    ∀ f ∈ fs, namesTunnel f → HasRef cfg c'.st f
  | _, [], _, _ => nofun
  | c, f0 :: rest, c', e => by
    intro f hf hn
    unfold updatePeers at e
    by_cases hc : f0.dstIntf = 0 ∧ f0.tunnelTEID ≠ 0
    · rw [if_pos hc] at e
      have href := addOrUpdatePeer_ref cfg c f0
      generalize addOrUpdatePeer cfg c f0 = r at e href
      obtain ⟨c1, b⟩ := r
      cases b
      · cases e
      · rcases List.mem_cons.mp hf with rfl | hr
        · have := updatePeers_hasRef cfg c1 rest f (href rfl)
          rwa [show updatePeers cfg c1 rest = (c', true) from e] at this
        · exact updatePeers_refs cfg c1 rest e f hr hn
    · rw [if_neg hc] at e
      rcases List.mem_cons.mp hf with rfl | hr
      · exact absurd hn hc
      · exact updatePeers_refs cfg c rest e f hr hn

theorem removePeer_keeps_others (cfg : Cfg4) (c : Ctx) (f g : Far) (hne : (g.fseID, g.farID) ≠ (f.fseID, f.farID))
    (h : HasRef cfg c.st g) : HasRef cfg (removePeer cfg c f).st g := by
  -- `pr` is the peer `removePeer_spec` names, `p0` the same record under the name `HasRef.put` quantifies over
  have hin : ∀ pr p0, mapGet c.st.peers (tpOf cfg f) = some pr → mapGet c.st.peers (tpOf cfg f) = some p0 →
      (g.fseID, g.farID) ∈ p0.usedBy → (g.fseID, g.farID) ∈ pr.usedBy.filter (· != (f.fseID, f.farID)) :=
    fun pr p0 hm e hin => by rw [hm] at e; cases e; exact List.mem_filter.mpr ⟨hin, by simpa using hne⟩
  unfold HasRef
  obtain ⟨-, -, e⟩ | ⟨pr, hm, ⟨-, -, -, e⟩ | ⟨hu, -, -, e⟩⟩ := (removePeer_spec cfg c f).2 <;> rw [e]
  · exact h
  · exact h.put _ _ (hin pr · hm)
  · -- the peer goes: then it is not g's, whose reference would have survived the filter
    refine (h.put _ _ (hin pr · hm)).del _ fun e => ?_
    obtain ⟨pg, hg, hmem⟩ := h
    exact List.ne_nil_of_mem (hin pr pg hm (e ▸ hg) hmem) hu

end Up4
