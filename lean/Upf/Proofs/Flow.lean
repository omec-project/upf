import Upf.Model.Flow
/-! `parseFlowDesc` on token lists (C08): what is rendered by the grammar parses back (`roundtrip`, one lemma per
clause), and the refusals, all by following the four patterns of `loop`. -/
namespace Flow
variable {Net Port : Type}

theorem loop_from (L : Lex Net Port) (ue : String) (e e' : EP) (f : IPF Net Port) (n : Net) (p : Port)
    (hn : L.parseNet (xform ue e.addr) = some n)
    (hp : ∀ s, e.port = some s → L.parsePort s = some p ∧ s ≠ "to") (hp' : e.port = none → p = f.src.ports) :
    loop L ue (e.render "from" ++ e'.render "to") f = loop L ue (e'.render "to") { f with src := ⟨some n, p⟩ } := by
  obtain ⟨addr, port⟩ := e
  cases port with
  | none => cases hp' rfl; simp [EP.render, loop, hn]
  | some s => obtain ⟨h1, h2⟩ := hp s rfl; simp [EP.render, loop, hn, h1, h2]

theorem loop_to (L : Lex Net Port) (ue : String) (e : EP) (f : IPF Net Port) (n : Net) (p : Port)
    (hn : L.parseNet (xform ue e.addr) = some n)
    (hp : ∀ s, e.port = some s → L.parsePort s = some p) (hp' : e.port = none → p = f.dst.ports) :
    loop L ue (e.render "to") f = some { f with dst := ⟨some n, p⟩ } := by
  obtain ⟨addr, port⟩ := e
  cases port with
  | none => cases hp' rfl; simp [EP.render, loop, hn]
  | some s => simp [EP.render, loop, hn, hp s rfl]

theorem roundtrip (L : Lex Net Port) (ue : String) (r : Rule)
    (ha : r.action = "permit" ∨ r.action = "deny") (hd : r.dir = "in" ∨ r.dir = "out")
    (n1 n2 : Net) (hn1 : L.parseNet (xform ue r.src.addr) = some n1) (hn2 : L.parseNet (xform ue r.dst.addr) = some n2)
    (p1 p2 : Port)
    (hp1 : ∀ s, r.src.port = some s → L.parsePort s = some p1 ∧ s ≠ "to")
    (hp1' : r.src.port = none → p1 = L.wild)
    (hp2 : ∀ s, r.dst.port = some s → L.parsePort s = some p2)
    (hp2' : r.dst.port = none → p2 = L.wild) :
    parse L ue r.render = some { action := r.action, dir := r.dir, proto := r.proto,
                                 src := ⟨some n1, p1⟩, dst := ⟨some n2, p2⟩ } := by
  have hna : ¬ ¬ (r.action = "permit" ∨ r.action = "deny") := fun h => h ha
  have hnd : ¬ ¬ (r.dir = "in" ∨ r.dir = "out") := fun h => h hd
  simp only [Rule.render, List.cons_append, List.nil_append, parse, hna, hnd, if_false]
  rw [loop_from L ue r.src r.dst _ n1 p1 hn1 hp1 hp1', loop_to L ue r.dst _ n2 p2 hn2 hp2 hp2']
  simp

theorem refused_short (L : Lex Net Port) (ue : String) (toks : List String) (h : toks.length < 3) :
    parse L ue toks = none := by
  unfold parse
  split
  · exact absurd h (by simp)
  · rfl

theorem refused_action (L : Lex Net Port) (ue a : String) (rest : List String)
    (h : ¬ (a = "permit" ∨ a = "deny")) : parse L ue (a :: rest) = none := by
  match rest with
  | [] => rfl
  | [_] => rfl
  | d :: p :: r => simp [parse, h]

theorem refused_dir (L : Lex Net Port) (ue a d : String) (rest : List String)
    (h : ¬ (d = "in" ∨ d = "out")) : parse L ue (a :: d :: rest) = none := by
  match rest with
  | [] => rfl
  | p :: r => simp [parse, h]

/-- a result always has both endpoints (so parseSDFFilter never dereferences a nil IPNet) -/
theorem ok_has_both (L : Lex Net Port) (ue : String) (toks : List String) (f : IPF Net Port)
    (h : parse L ue toks = some f) : f.src.net.isSome ∧ f.dst.net.isSome := by
  unfold parse at h
  split at h
  · -- past the two refusals, the last test of `parse` is the claim
    simp only [Option.ite_none_left_eq_some] at h
    obtain ⟨-, -, h⟩ := h
    split at h
    · cases h
    · simp only [Option.ite_none_right_eq_some, Option.some.injEq] at h
      exact h.2 ▸ h.1
  · cases h

theorem getLast?_tail {α : Type} {y k : α} {rest : List α} (hy : y ≠ k) (h : (y :: rest).getLast? = some k) :
    rest.getLast? = some k := by
  cases rest with
  | nil => exact absurd (by simpa using h) hy
  | cons _ _ => exact h

theorem loop_last_kw (L : Lex Net Port) (ue kw : String) (hk : kw = "from" ∨ kw = "to")
    (hnet : L.parseNet (xform ue kw) = none) (hport : L.parsePort kw = none)
    (ts : List String) (f : IPF Net Port) (h : ts.getLast? = some kw) : loop L ue ts f = none := by
  fun_induction loop L ue ts f
  -- refused whatever comes last: `[t]` with `t` a keyword; `"from" :: x :: y :: rest` and `"to" :: x :: y :: rest` with
  -- `x` no address or `y` neither `"to"` nor a port
  case case2 | case7 | case9 | case11 | case12 => rfl
  -- `kw` is all there is or stands for an address: `[]`; `[t]` with `t` no keyword; `["from", x]`, `["to", x]`
  case case1 => cases h
  case case3 hn => cases h; exact absurd hk hn
  case case4 | case5 => simp at h; subst h; rw [hnet]; rfl
  -- the loop goes on with a list that has the same last token: `[t, x]` and `t :: x :: y :: rest` with `t` no keyword;
  -- `"from" :: x :: "to" :: rest`
  case case6 ih | case14 ih | case8 ih => exact ih (by simpa using h)
  -- `"from" :: x :: y :: rest` and `"to" :: x :: y :: rest` with `y` a port: the loop goes on with `rest`, and `y` is not
  -- `kw`, so not the last token
  case case10 ih | case13 ih =>
    have hy := ‹L.parsePort _ = some _›
    refine ih (getLast?_tail (fun e => ?_) (by simpa using h))
    rw [e, hport] at hy; cases hy

theorem loop_trailing_kw (L : Lex Net Port) (ue kw : String) (hk : kw = "from" ∨ kw = "to")
    (hnet : L.parseNet (xform ue kw) = none) (hport : L.parsePort kw = none) :
    ∀ (n : Nat) (pre : List String), pre.length = n → ∀ f : IPF Net Port, loop L ue (pre ++ [kw]) f = none :=
  fun _ pre _ f => loop_last_kw L ue kw hk hnet hport _ f (by simp)

#print axioms roundtrip
#print axioms loop_trailing_kw
end Flow
