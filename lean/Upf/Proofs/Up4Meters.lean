import Upf.Proofs.Up4Requests
import Upf.Proofs.Up4Start
/-!
C15 on the model, meter cells: for every environment (every pick of `Pop()`, every outcome of every Write) the two meter
pools stay exclusive — a cell is never free while a recorded meter holds it, never held by two meters, never outside
its array — and an application-meter operation never touches the session pool nor the reverse (no migration).
-/
namespace Up4
open Agent

structure MI (app sess : List Nat) (ms : List ((Nat × Nat) × Meter)) : Prop where
  appNd : app.Nodup
  sessNd : sess.Nodup
  /-- a cell a recorded application meter holds is not free (in its own pool) -/
  appHeld : ∀ k m, mapGet ms k = some m → m.kind = 1 → m.ul ∉ app ∧ m.dl ∉ app
  sessHeld : ∀ k m, mapGet ms k = some m → m.kind = 2 → m.ul ∉ sess ∧ m.dl ∉ sess
  /-- two recorded meters of the same pool share no cell -/
  owners : ∀ k1 k2 m1 m2, k1 ≠ k2 → mapGet ms k1 = some m1 → mapGet ms k2 = some m2 → m1.kind = m2.kind →
    m1.ul ≠ m2.ul ∧ m1.ul ≠ m2.dl ∧ m1.dl ≠ m2.ul ∧ m1.dl ≠ m2.dl
  /-- every cell, free or held, lies inside its array and is not the reserved cell 0 (1024: the size of both meter arrays in the
  shipped P4Info, `meter_cells`) -/
  appRange : ∀ x ∈ app, 1 ≤ x ∧ x < 1024
  sessRange : ∀ x ∈ sess, 1 ≤ x ∧ x < 1024
  heldRange : ∀ k m, mapGet ms k = some m → 1 ≤ m.ul ∧ m.ul < 1024 ∧ 1 ≤ m.dl ∧ m.dl < 1024
  kinds : ∀ k m, mapGet ms k = some m → m.kind = 1 ∨ m.kind = 2

/-- the invariant of the two meter pools and the `meters` map -/
abbrev MInv (st : St) : Prop := MI st.appFree st.sessFree st.meters

theorem MInv.of_frame {g : Option Part} {s s' : St} (h : Frame g s s') (hI : MInv s)
    (e : ∀ t : St, (t.but g).mtr = t.mtr := by intro; rfl) : MInv s' :=
  h.keeps St.mtr (fun v => MI v.1 v.2.1 v.2.2) hI e

/-! `MI` says the same of the application pool (meters of kind 1) and of the session pool (kind 2). -/

namespace MI
variable {ms : List ((Nat × Nat) × Meter)} {app sess free free' : List Nat} {kind : Nat}

structure Pool (kind : Nat) (free : List Nat) (ms : List ((Nat × Nat) × Meter)) : Prop where
  nd : free.Nodup
  held : ∀ k m, mapGet ms k = some m → m.kind = kind → m.ul ∉ free ∧ m.dl ∉ free
  range : ∀ x ∈ free, 1 ≤ x ∧ x < 1024

structure Held (ms : List ((Nat × Nat) × Meter)) : Prop where
  owners : ∀ k1 k2 m1 m2, k1 ≠ k2 → mapGet ms k1 = some m1 → mapGet ms k2 = some m2 → m1.kind = m2.kind →
    m1.ul ≠ m2.ul ∧ m1.ul ≠ m2.dl ∧ m1.dl ≠ m2.ul ∧ m1.dl ≠ m2.dl
  range : ∀ k m, mapGet ms k = some m → 1 ≤ m.ul ∧ m.ul < 1024 ∧ 1 ≤ m.dl ∧ m.dl < 1024
  kinds : ∀ k m, mapGet ms k = some m → m.kind = 1 ∨ m.kind = 2

theorem appPool (h : MI app sess ms) : Pool 1 app ms := ⟨h.appNd, h.appHeld, h.appRange⟩
theorem sessPool (h : MI app sess ms) : Pool 2 sess ms := ⟨h.sessNd, h.sessHeld, h.sessRange⟩
theorem held (h : MI app sess ms) : Held ms := ⟨h.owners, h.heldRange, h.kinds⟩

theorem Pool.zero (h : Pool kind free ms) : 0 ∉ free := fun h0 => Nat.not_succ_le_zero 0 (h.range 0 h0).1

theorem join (ha : Pool 1 app ms) (hs : Pool 2 sess ms) (hm : Held ms) : MI app sess ms :=
  ⟨ha.nd, hs.nd, ha.held, hs.held, hm.owners, ha.range, hs.range, hm.range, hm.kinds⟩

theorem Pool.congr (h : Pool kind free ms) (hm : ∀ x, x ∈ free' ↔ x ∈ free) (hn : free'.Nodup) : Pool kind free' ms :=
  ⟨hn, fun k m hg hk => ⟨fun hx => (h.held k m hg hk).1 ((hm _).mp hx), fun hx => (h.held k m hg hk).2 ((hm _).mp hx)⟩,
   fun x hx => h.range x ((hm x).mp hx)⟩

theorem Pool.put (h : Pool kind free ms) (key : Nat × Nat) (m : Meter)
    (hm : ∀ x, x ∈ free' ↔ x ∈ free ∧ x ≠ m.ul ∧ x ≠ m.dl) (hn : free'.Nodup) : Pool kind free' (mapPut ms key m) := by
  refine ⟨hn, fun k m' hg hk => ?_, fun x hx => h.range x ((hm x).mp hx).1⟩
  rcases mapGet_mapPut_some hg with ⟨_, rfl⟩ | ⟨_, hg'⟩
  · exact ⟨fun hx => ((hm _).mp hx).2.1 rfl, fun hx => ((hm _).mp hx).2.2 rfl⟩
  · exact ⟨fun hx => (h.held k m' hg' hk).1 ((hm _).mp hx).1, fun hx => (h.held k m' hg' hk).2 ((hm _).mp hx).1⟩

theorem Pool.put_other (h : Pool kind free ms) (key : Nat × Nat) (m : Meter) (hk : m.kind ≠ kind) :
    Pool kind free (mapPut ms key m) := by
  refine ⟨h.nd, fun k m' hg hk' => ?_, h.range⟩
  rcases mapGet_mapPut_some hg with ⟨_, rfl⟩ | ⟨_, hg'⟩
  · exact absurd hk' hk
  · exact h.held k m' hg' hk'

/-- the new meter's cells were free in its pool, so no recorded meter of its kind held them -/
theorem Held.put (hH : Held ms) (h : Pool kind free ms) (key : Nat × Nat) (m : Meter) (hk : m.kind = kind)
    (hk12 : kind = 1 ∨ kind = 2) (hul : m.ul ∈ free) (hdl : m.dl ∈ free) : Held (mapPut ms key m) := by
  have fresh : ∀ k m', mapGet ms k = some m' → m'.kind = m.kind →
      m.ul ≠ m'.ul ∧ m.ul ≠ m'.dl ∧ m.dl ≠ m'.ul ∧ m.dl ≠ m'.dl := fun k m' hg hk' =>
    have := h.held k m' hg (hk'.trans hk)
    ⟨ne_of_mem_of_not_mem hul this.1, ne_of_mem_of_not_mem hul this.2, ne_of_mem_of_not_mem hdl this.1,
     ne_of_mem_of_not_mem hdl this.2⟩
  refine ⟨fun k1 k2 m1 m2 hne h1 h2 hkk => ?_, fun k m' hg => ?_, fun k m' hg => ?_⟩
  · rcases mapGet_mapPut_some h1 with ⟨e1, rfl⟩ | ⟨_, h1'⟩ <;> rcases mapGet_mapPut_some h2 with ⟨e2, rfl⟩ | ⟨_, h2'⟩
    · exact absurd (e1.trans e2.symm) hne
    · exact fresh k2 m2 h2' hkk.symm
    · have := fresh k1 m1 h1' hkk
      exact ⟨this.1.symm, this.2.2.1.symm, this.2.1.symm, this.2.2.2.symm⟩
    · exact hH.owners k1 k2 m1 m2 hne h1' h2' hkk
  · rcases mapGet_mapPut_some hg with ⟨_, rfl⟩ | ⟨_, hg'⟩
    · have a := h.range _ hul; have b := h.range _ hdl; omega
    · exact hH.range k m' hg'
  · rcases mapGet_mapPut_some hg with ⟨_, rfl⟩ | ⟨_, hg'⟩
    · exact hk ▸ hk12
    · exact hH.kinds k m' hg'

theorem Pool.del (h : Pool kind free ms) (hH : Held ms) {key : Nat × Nat} {m : Meter} (hg : mapGet ms key = some m)
    (hk : m.kind = kind) (hm : ∀ x, x ∈ free' ↔ x ∈ free ∨ x = m.ul ∨ x = m.dl) (hn : free'.Nodup) :
    Pool kind free' (mapDel ms key) := by
  refine ⟨hn, fun k m' hg' hk' => ?_, fun x hx => ?_⟩
  · obtain ⟨hne, hg''⟩ := mapGet_mapDel_some hg'
    have ho := hH.owners k key m' m hne hg'' hg (hk'.trans hk.symm)
    have hh := h.held k m' hg'' hk'
    exact ⟨fun hx => ((hm _).mp hx).elim hh.1 fun a => a.elim ho.1 ho.2.1,
           fun hx => ((hm _).mp hx).elim hh.2 fun a => a.elim ho.2.2.1 ho.2.2.2⟩
  · have hr := hH.range key m hg
    rcases (hm x).mp hx with a | a | a
    · exact h.range x a
    · subst a; omega
    · subst a; omega

theorem Pool.del_other (h : Pool kind free ms) (key : Nat × Nat) : Pool kind free (mapDel ms key) :=
  ⟨h.nd, fun k m hg hk => h.held k m (mapGet_mapDel_some hg).2 hk, h.range⟩

theorem Held.del (hH : Held ms) (key : Nat × Nat) : Held (mapDel ms key) :=
  ⟨fun k1 k2 m1 m2 hne h1 h2 => hH.owners k1 k2 m1 m2 hne (mapGet_mapDel_some h1).2 (mapGet_mapDel_some h2).2,
   fun k m hg => hH.range k m (mapGet_mapDel_some hg).2, fun k m hg => hH.kinds k m (mapGet_mapDel_some hg).2⟩

end MI

theorem configureMeters_minv (n : Nat) (c : Ctx) (qs : List Qer) : MInv c.st → MInv (configureMeters n c qs).1.st := by
  refine configureMeters_chain (Chain.inv MInv) n (fun c q c1 r e => ?_) c qs
  -- the step premise of `configureMeters_chain` at `Chain.inv` has the implication inside each branch of its match: pull it in front
  suffices h : ∀ hI : MInv c.st, match r with
      | none => MInv c1.st
      | some m => MI c1.st.appFree c1.st.sessFree (mapPut c1.st.meters (q.qerID, q.fseID) m) by cases r <;> exact h
  intro hI
  by_cases hs : q.session = true
  · rw [if_pos hs] at e
    have h := (configureSessMeter_spec c q).2 hI.sessNd hI.sessPool.zero
    rw [e] at h
    obtain ⟨ha, hm, ht⟩ := h
    cases r with
    | none =>
      show MI c1.st.appFree c1.st.sessFree c1.st.meters
      rw [ha, hm]
      exact MI.join hI.appPool (hI.sessPool.congr ht.1 ht.2) hI.held
    | some m =>
      obtain ⟨hk, hul, hdl, hmem, hnd⟩ := ht
      dsimp only
      rw [ha, hm]
      exact MI.join (hI.appPool.put_other _ m (by omega)) (hI.sessPool.put _ m hmem hnd)
        (hI.held.put hI.sessPool _ m hk (Or.inr rfl) hul hdl)
  · rw [if_neg hs] at e
    have h := (configureAppMeter_spec c q (n == 1)).2 hI.appNd hI.appPool.zero
    rw [e] at h
    obtain ⟨hs', hm, ht⟩ := h
    cases r with
    | none =>
      show MI c1.st.appFree c1.st.sessFree c1.st.meters
      rw [hs', hm]
      exact MI.join (hI.appPool.congr ht.1 ht.2) hI.sessPool hI.held
    | some m =>
      obtain ⟨hk, hul, hdl, hmem, hnd⟩ := ht
      dsimp only
      rw [hs', hm]
      exact MI.join (hI.appPool.put _ m hmem hnd) (hI.sessPool.put_other _ m (by omega))
        (hI.held.put hI.appPool _ m hk (Or.inl rfl) hul hdl)

theorem resetMeters_minv (c : Ctx) (qs : List Qer) : MInv c.st → MInv (resetMeters c qs).st := by
  refine resetMeters_chain (Chain.inv MInv) (fun c q hI => ?_) c qs
  simp only [resetMeters]
  cases hg : mapGet c.st.meters (q.qerID, q.fseID) with
  | none => exact hI
  | some m =>
    dsimp only
    generalize (_ ++ _ : List Upd) = ups
    have hr := hI.heldRange _ m hg
    have hul0 : m.ul ≠ 0 := by omega
    have hdl0 : m.dl ≠ 0 := by omega
    have hmem : ∀ l x, x ∈ setAdd (setAdd l m.ul) m.dl ↔ x ∈ l ∨ x = m.ul ∨ x = m.dl := fun l x => by
      rw [mem_setAdd, mem_setAdd, or_assoc]
    rw [if_pos (hI.kinds _ m hg)]
    rcases hI.kinds _ m hg with hk | hk
    · rw [if_pos hk, if_pos hul0]
      show MI _ (write c ups).1.st.sessFree (mapDel (write c ups).1.st.meters (q.qerID, q.fseID))
      rw [write_sessFree, write_meters, write_appFree]
      refine MI.join ?_ (hI.sessPool.del_other _) (hI.held.del _)
      by_cases hd : m.dl = m.ul
      · rw [if_neg (fun h => h.1 hd)]
        exact hI.appPool.del hI.held hg hk (fun x => by rw [mem_setAdd, hd, or_self]) (nodup_setAdd hI.appNd)
      · rw [if_pos ⟨hd, hdl0⟩]
        exact hI.appPool.del hI.held hg hk (hmem _) (nodup_setAdd (nodup_setAdd hI.appNd))
    · rw [if_neg (by omega), if_pos hul0, if_pos hdl0]
      show MI (write c ups).1.st.appFree _ (mapDel (write c ups).1.st.meters (q.qerID, q.fseID))
      rw [write_sessFree, write_meters, write_appFree]
      exact MI.join (hI.appPool.del_other _) (hI.sessPool.del hI.held hg hk (hmem _) (nodup_setAdd (nodup_setAdd hI.sessNd)))
        (hI.held.del _)

theorem sendCreate_minv (cfg : Cfg4) (c : Ctx) (all updated : Rules) : MInv c.st → MInv (sendCreate cfg c all updated).1.st :=
  sendCreate_chain (Chain.inv MInv) cfg c c all updated (MInv.of_frame (allocCounters_eff ..).1)
    (fun _ => MInv.of_frame (updateMaps_frame ..)) (fun _ => configureMeters_minv _ _ _)
    (fun _ => MInv.of_frame (updatePeers_eff ..).1) (fun _ _ => MInv.of_frame (modifyFwd_frame ..))

theorem sendUpdate_minv (cfg : Cfg4) (c : Ctx) (all updated : Rules) : MInv c.st → MInv (sendUpdate cfg c all updated).1.st :=
  sendUpdate_chain (Chain.inv MInv) cfg c all updated (fun _ => MInv.of_frame (updateMaps_frame ..))
    (fun _ => MInv.of_frame (updatePeers_eff ..).1) (fun _ _ => MInv.of_frame (modifyFwd_frame ..))

theorem sendDelete_minv (cfg : Cfg4) (c : Ctx) (del : Rules) : MInv c.st → MInv (sendDelete cfg c del).1.st :=
  sendDelete_chain (Chain.inv MInv) cfg c del (fun _ _ => MInv.of_frame (modifyFwd_frame ..))
    (fun _ _ => MInv.of_frame (release_frame ..)) (fun _ => resetMeters_minv _ _)
    (fun _ _ => MInv.of_frame (removePeer_frame ..)) (fun _ => MInv.of_frame (removeMaps_frame ..))

theorem start_minv (cfg : Cfg4) (srv : Srv) (injs : List Inj) : MInv (start cfg srv injs).1.st := by
  have hnone : MI.Held [] := ⟨nofun, nofun, nofun⟩
  obtain ⟨srv', h | h, -⟩ := start_st cfg srv injs <;> rw [h]
  · exact MI.join ⟨List.nodup_nil, nofun, nofun⟩ ⟨List.nodup_nil, nofun, nofun⟩ hnone
  · have hfull : ∀ kind, MI.Pool kind ((List.range 1023).map (· + 1)) [] := fun _ =>
      ⟨nodup_range_add _ 1, nofun, fun x hx => mem_range_add hx⟩
    show MI _ _ _
    dsimp only
    exact MI.join (hfull 1) (hfull 2) hnone

end Up4
