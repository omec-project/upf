import Upf.Model.Notif
/-! Spacing of downlink data notifications (C13): one report moves the stored time of a session forward by at least the
interval or not at all (`shouldNotify_last`), and `spacing_aux` carries that along a monotone report sequence. -/

namespace Notif

theorem Mono.tail {a : Nat × Nat} : ∀ {l : List (Nat × Nat)}, Mono (a :: l) → Mono l ∧ ∀ z ∈ l, a.1 ≤ z.1
  | [], _ => ⟨trivial, fun _ hz => nomatch hz⟩
  | _ :: _, h =>
    ⟨h.2, List.forall_mem_cons.mpr ⟨h.1, fun z hz => Nat.le_trans h.1 ((Mono.tail h.2).2 z hz)⟩⟩

theorem shouldNotify_last (iv : Nat) {st : St} {f t0 : Nat} (hl : st.last f = some t0) (t g : Nat) (ht : t0 ≤ t) :
    ∃ t1, (shouldNotify iv st t g).2.last f = some t1 ∧ t0 ≤ t1 ∧ t1 ≤ t ∧
      ((shouldNotify iv st t g).1 = true → g = f → t0 + iv ≤ t) := by
  -- another session's report does not touch the entry of `f`
  have other : g ≠ f → (if f = g then some t else st.last f) = some t0 := fun e => (if_neg (Ne.symm e)).trans hl
  fun_cases shouldNotify iv st t g
  case case1 hn =>  -- no entry for `g`
    have e : g ≠ f := fun e => nomatch (e ▸ hn).symm.trans hl
    exact ⟨t0, other e, Nat.le_refl _, ht, fun _ e' => absurd e' e⟩
  case case2 t' hs hiv =>  -- an entry for `g` that is old enough
    by_cases e : g = f
    · cases (e ▸ hs).symm.trans hl
      exact ⟨t, if_pos e.symm, ht, Nat.le_refl _, fun _ _ => by omega⟩
    · exact ⟨t0, other e, Nat.le_refl _, ht, fun _ e' => absurd e' e⟩
  case case3 =>  -- suppressed
    exact ⟨t0, hl, Nat.le_refl _, ht, nofun⟩

/-- `last f = some t0` means a notification for `f` was forwarded at `t0` ≤ every later time -/
theorem spacing_aux (iv : Nat) : ∀ (evs : List (Nat × Nat)) (st : St) (f t0 : Nat),
    st.last f = some t0 → (∀ e ∈ evs, t0 ≤ e.1) → Mono evs →
    ∀ e ∈ run iv st evs, e.2 = f → e.1 ≥ t0 + iv := by
  intro evs
  induction evs with
  | nil => intro _ _ _ _ _ _ _ he; cases he
  | cons ev rest ih =>
    obtain ⟨t, g⟩ := ev
    intro st f t0 hl hge hm e he hef
    obtain ⟨t1, h1, h01, h1t, hpass⟩ := shouldNotify_last iv hl t g (hge _ List.mem_cons_self)
    obtain ⟨hm', hrest⟩ := hm.tail
    have ih := ih _ f t1 h1 (fun x hx => Nat.le_trans h1t (hrest x hx)) hm' e
    simp only [run] at he
    split at he
    · rename_i hb
      rcases List.mem_cons.mp he with rfl | he'
      · exact hpass hb hef
      · exact Nat.le_trans (Nat.add_le_add_right h01 iv) (ih he' hef)
    · exact Nat.le_trans (Nat.add_le_add_right h01 iv) (ih he hef)

/-- a first report for a session is never suppressed -/
theorem first_passes (iv : Nat) (st : St) (t f : Nat) (rest : List (Nat × Nat)) (h : st.last f = none) :
    (t, f) ∈ run iv st ((t, f) :: rest) := by
  simp [run, shouldNotify, h]

#print axioms spacing_aux

end Notif
