import Upf.Model.Tern
/-! C17: `portMask`, `maxPort` and the expansion loop of the ternary strategy inside `asComplexTernaryMatches` (pfcpiface/parse_pdr.go); the rules cover exactly [low, high]. -/

namespace Tern

theorem limit_eq : limit = BitVec.allOnes 16 := rfl

theorem limit_sub (m : U16) : limit - m = ~~~m := BitVec.allOnes_sub_eq_not m

theorem and_not_self_of_disjoint (a b : U16) (h : a &&& b = 0#16) : a &&& ~~~b = a := by
  rw [← BitVec.zero_or (x := a &&& ~~~b), ← h, ← BitVec.and_or_distrib_left, BitVec.or_not_self,
    BitVec.and_allOnes]

theorem disjoint_add (a b : U16) (h : a &&& b = 0#16) : (a + b).toNat = a.toNat + b.toNat :=
  BitVec.toNat_add_of_and_eq_zero h

theorem not_and_and (p t : U16) : (~~~t) &&& (p &&& t) = 0#16 := by
  rw [BitVec.and_comm p, ← BitVec.and_assoc, BitVec.not_and_self]
  exact BitVec.zero_and

theorem and_toNat_le (p t : U16) : (p &&& t).toNat ≤ p.toNat :=
  BitVec.toNat_and p t ▸ Nat.and_le_left

/-- `maxPort` never wraps: the two summands have no bit in common. -/
theorem maxPort_toNat_and (p m : U16) : (maxPort p m).toNat = (~~~m).toNat + (p &&& m).toNat := by
  rw [maxPort, limit_sub, disjoint_add _ _ (not_and_and p m)]

theorem maxPort_toNat (port end_ m : U16) (hg : Good port end_ m) :
    (maxPort port m).toNat = port.toNat + (~~~m).toNat := by
  rw [maxPort_toNat_and, hg.1, Nat.add_comm]

theorem good_of_test (port end_ tm : U16)
    (h1 : ¬ (port &&& tm) < port) (h2 : maxPort (port &&& tm) tm ≤ end_) : Good port end_ tm := by
  have heq : port &&& tm = port :=
    BitVec.eq_of_toNat_eq (Nat.le_antisymm (and_toNat_le port tm) (BitVec.not_lt.mp h1))
  rw [BitVec.le_def, maxPort_toNat_and, heq, heq, Nat.add_comm] at h2
  exact ⟨heq, h2⟩

theorem loopBody_some {port end_ : U16} {s s' : LoopSt} (h : loopBody port end_ s = some s') :
    ¬ (port &&& s.testMask) < port ∧ s'.bit = s.bit <<< 1 ∧ s'.testMask = s.testMask - s.bit ∧
    s'.mask = if maxPort (port &&& s.testMask) s.testMask ≤ end_ then s.testMask else s.mask := by
  simp only [loopBody, Option.ite_none_left_eq_some, Option.ite_none_right_eq_some, Option.some.injEq] at h
  obtain ⟨_, hlt, rfl⟩ := h
  exact ⟨hlt, rfl, rfl, rfl⟩

theorem loopBody_good (port end_ : U16) (s s' : LoopSt)
    (h : loopBody port end_ s = some s') (hg : Good port end_ s.mask) : Good port end_ s'.mask := by
  obtain ⟨hlt, _, _, hm⟩ := loopBody_some h
  rw [hm]
  split
  · exact good_of_test port end_ s.testMask hlt ‹_›
  · exact hg

theorem loop_induction {port end_ : U16} (P : LoopSt → Prop)
    (step : ∀ s s', loopBody port end_ s = some s' → P s → P s') (fuel : Nat) (s : LoopSt) (h : P s) :
    ∃ s', P s' ∧ loop port end_ fuel s = s'.mask := by
  induction fuel generalizing s with
  | zero => exact ⟨s, h, rfl⟩
  | succ n ih =>
    unfold loop
    split
    · exact ⟨s, h, rfl⟩
    · exact ih _ (step _ _ ‹_› h)

theorem loop_good (port end_ : U16) (fuel : Nat) (s : LoopSt)
    (hg : Good port end_ s.mask) : Good port end_ (loop port end_ fuel s) := by
  obtain ⟨s', h', e⟩ := loop_induction (fun s => Good port end_ s.mask) (loopBody_good port end_) fuel s hg
  exact e ▸ h'

theorem portMask_good (port end_ : U16) (h : port ≤ end_) : Good port end_ (portMask port end_) := by
  apply loop_good
  refine ⟨by rw [init, limit_eq, BitVec.and_allOnes], ?_⟩
  rw [init, limit_eq, BitVec.not_allOnes]
  exact h

theorem hi_step (i : Nat) : hi i - (1#16 <<< i) = hi (i+1) := by
  -- 0xFFFE + 1 = 0xFFFF, shifted left by `i`
  rw [BitVec.sub_eq_iff_eq_add, hi, hi, Nat.add_comm, BitVec.shiftLeft_add, ← BitVec.shiftLeft_add_distrib]
  rfl

theorem getLsbD_limit (k : Nat) : (65535#16 : U16).getLsbD k = decide (k < 16) :=
  BitVec.getLsbD_allOnes

theorem and_hi (p : U16) (j : Nat) : p &&& hi j = (p >>> j) <<< j :=
  BitVec.shiftLeft_ushiftRight.symm

theorem and_hi_toNat (p : U16) (j : Nat) : (p &&& hi j).toNat = p.toNat / 2^j * 2^j := by
  rw [and_hi, BitVec.toNat_shiftLeft, BitVec.toNat_ushiftRight, Nat.shiftLeft_eq, Nat.shiftRight_eq_div_pow,
    Nat.mod_eq_of_lt (Nat.lt_of_le_of_lt (Nat.div_mul_le_self ..) p.isLt)]

theorem loopBody_inv (port end_ : U16) (s s' : LoopSt)
    (h : loopBody port end_ s = some s') (hi_ : Inv s) : Inv s' := by
  obtain ⟨⟨i, ht, hb⟩, hs⟩ := hi_
  obtain ⟨_, hb', ht', hm⟩ := loopBody_some h
  refine ⟨⟨i+1, by rw [ht', ht, hb, hi_step], by rw [hb', hb, ← BitVec.shiftLeft_add]⟩, ?_⟩
  rw [hm]
  split
  · exact ⟨i, ht⟩
  · exact hs

theorem loop_shape (port end_ : U16) (fuel : Nat) (s : LoopSt) (h : Inv s) :
    Shape (loop port end_ fuel s) := by
  obtain ⟨s', h', e⟩ := loop_induction Inv (loopBody_inv port end_) fuel s h
  exact e ▸ h'.shape

theorem portMask_shape (port end_ : U16) : Shape (portMask port end_) :=
  loop_shape port end_ _ _ ⟨⟨0, rfl, rfl⟩, ⟨0, rfl⟩⟩

theorem two_pow_le (j : Nat) (h : j ≤ 16) : 2^j ≤ 65536 :=
  Nat.pow_le_pow_right (by decide) h

theorem hi_toNat (j : Nat) (h : j ≤ 16) : (hi j).toNat = 65536 - 2^j := by
  have : ∀ k : Fin 17, (hi k.val).toNat = 65536 - 2^k.val := by decide
  exact this ⟨j, Nat.lt_succ_of_le h⟩

theorem hi_ge (j : Nat) (h : 16 ≤ j) : hi j = 0#16 := BitVec.shiftLeft_eq_zero h

/-- masks from `2^16` on are all zero, so a shaped mask has an exponent of at most 16 -/
theorem Shape.le {m : U16} (hs : Shape m) : ∃ j, j ≤ 16 ∧ m = hi j := by
  obtain ⟨j, rfl⟩ := hs
  by_cases hj : j ≤ 16
  · exact ⟨j, hj, rfl⟩
  · exact ⟨16, Nat.le_refl _, by rw [hi_ge j (Nat.le_of_not_le hj), hi_ge 16 (Nat.le_refl _)]⟩

theorem and_hi_eq_iff (p q : U16) (j : Nat) :
    p &&& hi j = q &&& hi j ↔ p.toNat / 2^j = q.toNat / 2^j := by
  rw [← BitVec.toNat_inj, and_hi_toNat, and_hi_toNat]
  exact ⟨Nat.eq_of_mul_eq_mul_right (Nat.two_pow_pos j), congrArg (· * 2^j)⟩

/-- a rule with a shaped, good mask matches exactly the block [port, port + ~mask] -/
theorem block_cover (port end_ m : U16) (hs : Shape m) (hg : Good port end_ m) (p : U16) :
    (p &&& m = port &&& m) ↔ (port.toNat ≤ p.toNat ∧ p.toNat ≤ port.toNat + (~~~m).toNat) := by
  obtain ⟨j, hj, rfl⟩ := hs.le
  have hq : port.toNat / 2^j * 2^j = port.toNat := by rw [← and_hi_toNat, hg.1]
  have hpos := Nat.two_pow_pos j
  have hn : (~~~hi j).toNat = 2^j - 1 := by
    rw [BitVec.toNat_not, hi_toNat j hj, Nat.sub_right_comm, Nat.sub_sub_self (two_pow_le j hj)]
  rw [and_hi_eq_iff, Nat.div_eq_iff hpos, hq, hn, Nat.add_sub_assoc hpos]

theorem expand_succ (high : U16) (fuel : Nat) {port : Nat} (h : port ≤ high.toNat) :
    ∃ r : Rule, r.port.toNat = port ∧ Shape r.mask ∧ Good r.port high r.mask ∧
      expand high (fuel+1) port = r :: expand high fuel (port + (~~~r.mask).toNat + 1) := by
  have hP : (BitVec.ofNat 16 port).toNat = port :=
    Nat.mod_eq_of_lt (Nat.lt_of_le_of_lt h high.isLt)
  have hg := portMask_good (BitVec.ofNat 16 port) high (by rw [BitVec.le_def, hP]; exact h)
  refine ⟨⟨BitVec.ofNat 16 port, portMask (BitVec.ofNat 16 port) high⟩, hP, portMask_shape _ _, hg, ?_⟩
  simp only [expand, if_pos h, maxPort_toNat _ _ _ hg, hP]

theorem expand_of_gt (high : U16) {port : Nat} (h : high.toNat < port) (fuel : Nat) : expand high fuel port = [] := by
  cases fuel
  · rfl
  · rw [expand, if_neg (Nat.not_le.mpr h)]

theorem expand_mem (high : U16) : ∀ (fuel port : Nat) (r : Rule), r ∈ expand high fuel port →
    port ≤ r.port.toNat ∧ Good r.port high r.mask := by
  intro fuel
  induction fuel with
  | zero => exact fun _ _ h => nomatch h
  | succ n ih =>
    intro port r h
    by_cases hle : port ≤ high.toNat
    · obtain ⟨r0, hp, _, hg, he⟩ := expand_succ high n hle
      rw [he, List.mem_cons] at h
      rcases h with rfl | h
      · exact ⟨Nat.le_of_eq hp.symm, hg⟩
      · have := ih _ r h
        exact ⟨Nat.le_trans (Nat.le_add_right port (_ + 1)) this.1, this.2⟩
    · rw [expand_of_gt high (Nat.lt_of_not_le hle)] at h
      exact nomatch h

/-- also from beyond `high`, where `expand` writes nothing -/
theorem expand_cover_from (high : U16) (p : U16) : ∀ (fuel port : Nat), high.toNat + 1 ≤ fuel + port →
    ((∃ r ∈ expand high fuel port, r.matches p) ↔ (port ≤ p.toNat ∧ p.toNat ≤ high.toNat)) := by
  have beyond (fuel) {port} (hgt : high.toNat < port) :
      (∃ r ∈ expand high fuel port, r.matches p) ↔ (port ≤ p.toNat ∧ p.toNat ≤ high.toNat) := by
    rw [expand_of_gt high hgt]
    exact iff_of_false (fun ⟨_, h, _⟩ => nomatch h) fun ⟨h1, h2⟩ => Nat.not_le.mpr hgt (Nat.le_trans h1 h2)
  intro fuel
  induction fuel with
  | zero => exact fun port h => beyond 0 (Nat.zero_add port ▸ h)
  | succ n ih =>
    intro port h
    by_cases hle : port ≤ high.toNat
    · obtain ⟨r, hp, hs, hg, he⟩ := expand_succ high n hle
      have hb := hg.2
      rw [hp] at hb
      simp only [he, List.mem_cons, exists_eq_or_imp]
      rw [ih _ (by omega), Rule.matches, block_cover _ _ _ hs hg p, hp]
      omega
    · exact beyond _ (Nat.lt_of_not_le hle)

theorem expand_cover (high : U16) : ∀ (fuel port : Nat), port ≤ high.toNat + 1 →
    high.toNat + 1 - port ≤ fuel → ∀ p : U16,
    (∃ r ∈ expand high fuel port, r.matches p) ↔ (port ≤ p.toNat ∧ p.toNat ≤ high.toNat) :=
  fun fuel port _ h p => expand_cover_from high p fuel port (Nat.sub_le_iff_le_add.mp h)

/-- the ternary expansion matches exactly the ports of [low, high] — for all 2^32 ranges -/
theorem ternary_cover (low high : U16) (p : U16) :
    (∃ r ∈ ternary low high, r.matches p) ↔ (low.toNat ≤ p.toNat ∧ p.toNat ≤ high.toNat) :=
  expand_cover_from high p _ _ (Nat.le_trans high.isLt (Nat.le_add_right _ _))

#print axioms ternary_cover

theorem matches_of_mask_zero {r : Rule} (h : r.mask = 0#16) (p : U16) : r.matches p := by
  rw [Rule.matches, h, BitVec.and_zero, BitVec.and_zero]

theorem full_of_ends {low high : U16} (h0 : low.toNat ≤ (0#16 : U16).toNat)
    (h1 : (0xFFFF#16 : U16).toNat ≤ high.toNat) : low = 0#16 ∧ high = 0xFFFF#16 :=
  ⟨BitVec.eq_of_toNat_eq (Nat.le_zero.mp h0),
    BitVec.eq_of_toNat_eq (Nat.le_antisymm (Nat.le_of_lt_succ high.isLt) h1)⟩

/-- a rule with mask 0 matches every port, in particular 0 and 65535 -/
theorem ternary_mask_zero (low high : U16) (r : Rule) (h : r ∈ ternary low high) (hm : r.mask = 0#16) :
    low = 0#16 ∧ high = 0xFFFF#16 :=
  have all (p : U16) := (ternary_cover low high p).mp ⟨r, h, matches_of_mask_zero hm p⟩
  full_of_ends (all 0#16).1 (all 0xFFFF#16).2

end Tern
