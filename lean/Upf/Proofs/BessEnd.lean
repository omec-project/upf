import Upf.Proofs.AgentWorld
import Upf.Proofs.BessTables
/-!
C03 / C05 on the tables themselves, no envelope: every way a session ends — Session Deletion, Session Report Response "context not
found" (`reportContextNotFound`), Association Release, timeout, heartbeat failure (`shutdownConn`) — leaves no entry under a key of
its rules and adds none; an accepted establishment upserts exactly its rules, and deleting that session again restores the tables.
-/
namespace Agent

/-- the four tables as one list of (table name, entry) — to state "no entry of the session anywhere" once -/
def Tables.all (t : Tables) : List (String × String × String) :=
  t.pdr.map (("pdrLookup", ·)) ++ t.far.map (("farLookup", ·)) ++ t.appQer.map (("appQERLookup", ·)) ++ t.sessQer.map (("sessionQERLookup", ·))

/-- the keys a session's stored rules occupy, per table -/
def Session.keys (cfg : Cfg) (s : Session) : List (String × String) :=
  ((pdrKV s.pdrs).map fun e => ("pdrLookup", e.1)) ++ ((farKV s.fars).map fun e => ("farLookup", e.1)) ++
  ((appQerKV cfg s.qers).map fun e => ("appQERLookup", e.1)) ++ ((sessQerKV cfg s.qers).map fun e => ("sessionQERLookup", e.1))

def Tables.has (t : Tables) (m k : String) : Prop := ∃ v, (m, k, v) ∈ t.all

def Tb.name : Tb → String
  | .pdr => "pdrLookup" | .far => "farLookup" | .app => "appQERLookup" | .sess => "sessionQERLookup"

theorem Tb.name_inj {X Y : Tb} (h : X.name = Y.name) : X = Y := by
  cases X <;> cases Y <;> first | rfl | simp [Tb.name] at h

theorem Tables.has_iff (t : Tables) (m k : String) : t.has m k ↔ ∃ X : Tb, m = X.name ∧ ∃ v, (k, v) ∈ t.tab X := by
  unfold Tables.has Tables.all
  simp only [List.mem_append, List.mem_map, Prod.mk.injEq]
  constructor
  · rintro ⟨v, ((⟨e, he, rfl, rfl⟩ | ⟨e, he, rfl, rfl⟩) | ⟨e, he, rfl, rfl⟩) | ⟨e, he, rfl, rfl⟩⟩
    · exact ⟨.pdr, rfl, v, he⟩
    · exact ⟨.far, rfl, v, he⟩
    · exact ⟨.app, rfl, v, he⟩
    · exact ⟨.sess, rfl, v, he⟩
  · rintro ⟨X, rfl, v, hv⟩
    cases X
    · exact ⟨v, .inl (.inl (.inl ⟨_, hv, rfl, rfl⟩))⟩
    · exact ⟨v, .inl (.inl (.inr ⟨_, hv, rfl, rfl⟩))⟩
    · exact ⟨v, .inl (.inr ⟨_, hv, rfl, rfl⟩)⟩
    · exact ⟨v, .inr ⟨_, hv, rfl, rfl⟩⟩

theorem Session.mem_keys (cfg : Cfg) (s : Session) (m k : String) : (m, k) ∈ s.keys cfg ↔ ∃ X : Tb, m = X.name ∧ k ∈ s.keysOf cfg X := by
  unfold Session.keys
  simp only [List.mem_append, List.mem_map, Prod.mk.injEq]
  constructor
  · rintro (((⟨e, he, rfl, rfl⟩ | ⟨e, he, rfl, rfl⟩) | ⟨e, he, rfl, rfl⟩) | ⟨e, he, rfl, rfl⟩)
    · exact ⟨.pdr, rfl, List.mem_map_of_mem he⟩
    · exact ⟨.far, rfl, List.mem_map_of_mem he⟩
    · exact ⟨.app, rfl, List.mem_map_of_mem he⟩
    · exact ⟨.sess, rfl, List.mem_map_of_mem he⟩
  · rintro ⟨X, rfl, hk⟩
    obtain ⟨e, he, rfl⟩ := List.mem_map.mp hk
    cases X
    · exact .inl (.inl (.inl ⟨e, he, rfl, rfl⟩))
    · exact .inl (.inl (.inr ⟨e, he, rfl, rfl⟩))
    · exact .inl (.inr ⟨e, he, rfl, rfl⟩)
    · exact .inr ⟨e, he, rfl, rfl⟩

theorem has_sendDel (cfg : Cfg) (t : Tables) (s : Session) (m k : String) :
    (sendDel cfg t s.pdrs s.fars s.qers).has m k ↔ t.has m k ∧ (m, k) ∉ s.keys cfg := by
  have ht : ∀ X v, (k, v) ∈ (sendDel cfg t s.pdrs s.fars s.qers).tab X ↔ (k, v) ∈ t.tab X ∧ k ∉ s.keysOf cfg X := fun X v => by
    rw [sendDel_tab, Table.mem_without]
  simp only [Tables.has_iff, Session.mem_keys, ht]
  constructor
  · rintro ⟨X, rfl, v, hv, hk⟩
    exact ⟨⟨X, rfl, v, hv⟩, fun ⟨Y, hY, hk'⟩ => hk (Tb.name_inj hY ▸ hk')⟩
  · rintro ⟨⟨X, rfl, v, hv⟩, hn⟩
    exact ⟨X, rfl, v, hv, fun hk => hn ⟨X, rfl, hk⟩⟩

theorem has_foldl_sendDel (cfg : Cfg) (m k : String) : ∀ (ss : List Session) (t : Tables),
    (ss.foldl (fun t s => sendDel cfg t s.pdrs s.fars s.qers) t).has m k ↔ t.has m k ∧ ∀ s ∈ ss, (m, k) ∉ s.keys cfg
  | [], _ => by simp
  | s :: rest, t => by rw [List.foldl_cons, has_foldl_sendDel cfg m k rest, has_sendDel, List.forall_mem_cons, and_assoc]

theorem shutdown_leaves_no_key (cfg : Cfg) (w : World) (a : Nat) (s : Session) (hs : s ∈ (w.conn a).sessions)
    (m k : String) (hk : (m, k) ∈ s.keys cfg) : ¬ (shutdownConn cfg w a).tables.has m k := by
  rw [shutdownConn_eq]
  exact fun h => ((has_foldl_sendDel cfg m k _ w.tables).mp h).2 s hs hk

theorem shutdown_adds_nothing (cfg : Cfg) (w : World) (a : Nat) (m k : String) (h : (shutdownConn cfg w a).tables.has m k) :
    w.tables.has m k := by
  rw [shutdownConn_eq] at h
  exact ((has_foldl_sendDel cfg m k _ w.tables).mp h).1

theorem reportContextNotFound_leaves_no_key (cfg : Cfg) (w : World) (a seid : Nat) (s : Session)
    (h : (w.conn a).sessions.find? (·.lseid = seid) = some s) (m k : String) (hk : (m, k) ∈ s.keys cfg) :
    ¬ (reportContextNotFound cfg w a seid).tables.has m k := by
  rw [reportContextNotFound_eq, h]
  exact fun h' => ((has_sendDel cfg w.tables s m k).mp h').2 hk

theorem deleteSession_tables (cfg : Cfg) (w : World) (a seid : Nat) (s : Session)
    (h : (w.conn a).sessions.find? (·.lseid = seid) = some s) :
    (deleteSession cfg w a seid).1.tables =
      { pdr := w.tables.pdr.without ((pdrKV s.pdrs).map (·.1)), far := w.tables.far.without ((farKV s.fars).map (·.1)),
        appQer := w.tables.appQer.without ((appQerKV cfg s.qers).map (·.1)),
        sessQer := w.tables.sessQer.without ((sessQerKV cfg s.qers).map (·.1)) } := by
  rw [deleteSession_world, reportContextNotFound_eq, h]
  exact sendDel_eq cfg w.tables s.pdrs s.fars s.qers

/-- accepted: the reply carries a UP F-SEID -/
theorem establish_tables (cfg : Cfg) (w : World) (a lseid : Nat) (r : EstReq)
    (h : (establish cfg w a lseid r).2.upSeid.isSome) :
    ∃ s : Session, s.lseid = lseid ∧
      (establish cfg w a lseid r).1.tables = sendAdd cfg w.tables s.pdrs s.fars s.qers ∧
      ((establish cfg w a lseid r).1.conn a).sessions = (w.conn a).sessions ++ [s] := by
  rcases establish_cases cfg w a lseid r with e | ⟨_, e⟩ | ⟨_, s, _, hs, e⟩ <;> rw [e] at h ⊢
  · cases h
  · cases h
  · exact ⟨s, by rw [hs]; rfl, rfl, by rw [World.conn_setL]⟩

/-- attach / detach; `hfresh`: distinct live rules have distinct keys -/
theorem establish_then_delete (cfg : Cfg) (w : World) (a lseid : Nat) (r : EstReq)
    (h : (establish cfg w a lseid r).2.upSeid.isSome)
    (hnew : ∀ x ∈ (w.conn a).sessions, x.lseid ≠ lseid)
    (hfresh : ∀ s : Session, (establish cfg w a lseid r).1.tables = sendAdd cfg w.tables s.pdrs s.fars s.qers →
      (∀ k ∈ (pdrKV s.pdrs).map (·.1), k ∉ w.tables.pdr.map (·.1)) ∧ (∀ k ∈ (farKV s.fars).map (·.1), k ∉ w.tables.far.map (·.1)) ∧
      (∀ k ∈ (appQerKV cfg s.qers).map (·.1), k ∉ w.tables.appQer.map (·.1)) ∧
      (∀ k ∈ (sessQerKV cfg s.qers).map (·.1), k ∉ w.tables.sessQer.map (·.1))) :
    (deleteSession cfg (establish cfg w a lseid r).1 a lseid).1.tables = w.tables := by
  obtain ⟨s, hl, ht, hs⟩ := establish_tables cfg w a lseid r h
  have hfind : (((establish cfg w a lseid r).1.conn a).sessions.find? (·.lseid = lseid)) = some s := by
    rw [hs, List.find?_append]
    have : (w.conn a).sessions.find? (fun x => decide (x.lseid = lseid)) = none := by
      rw [List.find?_eq_none]
      intro x hx
      simpa using hnew x hx
    simp [this, hl]
  rw [deleteSession_tables cfg _ a lseid s hfind, ht]
  obtain ⟨hp, hf, ha, hq⟩ := hfresh s ht
  have := sendDel_sendAdd_fresh cfg w.tables s.pdrs s.fars s.qers hp hf ha hq
  rw [sendDel_eq] at this
  exact this

end Agent
