import Upf.Proofs.Teid
/-! C07: over every operation sequence the TEIDs allocated and not yet freed are pairwise distinct and non-zero. -/
namespace Teid

inductive Op | alloc | free (id : Nat)

/-- state with a ghost list of live ids (allocated, not freed) -/
structure S where
  g : G
  live : List Nat

def stepAlloc (M : Nat) (s : S) : S :=
  match allocate M s.g with
  | none => s
  | some (id, g') => { g := g', live := id :: s.live }

def stepFree (s : S) (id : Nat) : S := { g := free s.g id, live := s.live.filter (· != id) }

def stepS (M : Nat) (s : S) : Op → S
  | .alloc => stepAlloc M s
  | .free id => stepFree s id

structure InvS (M : Nat) (s : S) : Prop where
  off : s.g.offset < M
  nodup : s.live.Nodup
  used : ∀ id ∈ s.live, id ≠ 0 ∧ id ≤ M ∧ s.g.used (id - 1) = true

theorem inv_alloc (M : Nat) (s : S) (h : InvS M s) : InvS M (stepAlloc M s) := by
  unfold stepAlloc
  split
  · exact h
  next id g' ha =>
    obtain ⟨h1, h2, h3, h4, h5, h6⟩ := alloc_fresh M s.g id g' h.off ha
    refine ⟨h6, List.nodup_cons.mpr ⟨fun hm => ?_, h.nodup⟩, fun x hx => ?_⟩
    · exact absurd (h3.symm.trans (h.used id hm).2.2) Bool.false_ne_true
    · rcases List.mem_cons.mp hx with rfl | hx
      · exact ⟨h1, h2, h4⟩
      · obtain ⟨a, b, c⟩ := h.used x hx
        refine ⟨a, b, ?_⟩
        by_cases e : x - 1 = id - 1
        · exact e ▸ h4
        · exact (h5 _ e).trans c

theorem inv_free (M : Nat) (s : S) (id : Nat) (h : InvS M s) : InvS M (stepFree s id) := by
  refine ⟨(free_offset ..).symm ▸ h.off, h.nodup.filter _, fun x hx => ?_⟩
  obtain ⟨hx, hne⟩ := List.mem_filter.mp hx
  obtain ⟨a, b, c⟩ := h.used x hx
  have hne : x ≠ id := bne_iff_ne.mp hne
  exact ⟨a, b, (free_used (by omega)).trans c⟩

theorem inv_stepS (M : Nat) (s : S) (op : Op) (h : InvS M s) : InvS M (stepS M s op) := by
  cases op with
  | alloc => exact inv_alloc M s h
  | free id => exact inv_free M s id h

def runS (M : Nat) (s : S) (ops : List Op) : S := ops.foldl (stepS M) s

theorem inv_runS (M : Nat) (ops : List Op) : ∀ (s : S), InvS M s → InvS M (runS M s ops) := by
  induction ops with
  | nil => intro s h; exact h
  | cons o os ih => intro s h; exact ih _ (inv_stepS M s o h)

def init : S := { g := { offset := 0, used := fun _ => false }, live := [] }

theorem inv_init (M : Nat) (hM : 0 < M) : InvS M init := ⟨hM, List.nodup_nil, by intro id h; cases h⟩

end Teid
