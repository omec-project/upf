import Upf.Model.Teid
/-! C07: `FTEIDGenerator.Allocate` / `FreeID` (pfcpiface/fteid.go) for any modulus: a granted TEID was free, and refusal means all are used. -/

namespace Teid

theorem scan_some {M used} : ∀ {f o r}, o < M → scan M used f o = some r → r < M ∧ used r = false := by
  intro f
  induction f with
  | zero => intro o r _ h; cases h
  | succ n ih =>
    intro o r ho h
    rw [scan] at h
    split at h
    · exact ih (Nat.mod_lt _ (Nat.zero_lt_of_lt ho)) h
    · cases h; exact ⟨ho, Bool.eq_false_iff.mpr ‹_›⟩

theorem scan_none {M used} : ∀ {f o}, o < M → scan M used f o = none →
    ∀ k, k < f → used ((o + k) % M) = true := by
  intro f
  induction f with
  | zero => intro o _ _ k hk; cases hk
  | succ n ih =>
    intro o ho h k hk
    rw [scan] at h
    split at h
    next hu =>
      cases k with
      | zero => rwa [Nat.add_zero, Nat.mod_eq_of_lt ho]
      | succ j =>
        have := ih (Nat.mod_lt _ (Nat.zero_lt_of_lt ho)) h j (Nat.lt_of_succ_lt_succ hk)
        rwa [Nat.mod_add_mod, Nat.add_assoc, Nat.add_comm 1 j] at this
    · cases h

/-- every residue is visited by a full cycle -/
theorem residue_hit (M o x : Nat) (ho : o < M) (hx : x < M) : ∃ k, k < M ∧ (o + k) % M = x :=
  ⟨(x + M - o) % M, Nat.mod_lt _ (Nat.zero_lt_of_lt ho), by
    rw [Nat.add_mod_mod, Nat.add_sub_cancel' (Nat.le_trans (Nat.le_of_lt ho) (Nat.le_add_left M x)),
      Nat.add_mod_right, Nat.mod_eq_of_lt hx]⟩

theorem alloc_fresh (M : Nat) (g : G) (id : Nat) (g' : G) (ho : g.offset < M)
    (h : allocate M g = some (id, g')) :
    id ≠ 0 ∧ id ≤ M ∧ g.used (id - 1) = false ∧ g'.used (id - 1) = true ∧
    (∀ x, x ≠ id - 1 → g'.used x = g.used x) ∧ g'.offset < M := by
  unfold allocate at h
  split at h
  · cases h
  next o hs =>
    cases h
    obtain ⟨h1, h2⟩ := scan_some ho hs
    exact ⟨Nat.succ_ne_zero o, h1, h2, if_pos rfl, fun x hx => if_neg hx, Nat.mod_lt _ (Nat.zero_lt_of_lt ho)⟩

theorem alloc_full (M : Nat) (g : G) (hM : 0 < M) (ho : g.offset < M) (h : allocate M g = none) :
    ∀ x, x < M → g.used x = true := by
  unfold allocate at h
  split at h
  next hs =>
    intro x hx
    obtain ⟨k, hk, rfl⟩ := residue_hit M g.offset x ho hx
    exact scan_none ho hs k hk
  · cases h

theorem free_offset (g : G) (id : Nat) : (free g id).offset = g.offset := by
  unfold free; split <;> rfl

theorem free_used {g : G} {id x : Nat} (h : x + 1 ≠ id) : (free g id).used x = g.used x := by
  unfold free
  split
  · rfl
  next hid => exact if_neg fun e => h (by rw [e, Nat.sub_add_cancel (Nat.le_of_not_lt hid)])

#print axioms alloc_full
#print axioms alloc_fresh

end Teid
