import Upf.Model.Conf
/-! `LoadConfigFile` after decoding (C18): `validate` returns no error iff the configuration is `Sound`, an error names a
check that fails (`ErrMeans`); `finish` = defaults then validation, `load` = decoding then `finish`, each characterised
by an iff from which the property's statements follow. -/

namespace Conf

theorem respTimeoutDefaultStr_eq : respTimeoutDefaultStr = "2s" := by decide
theorem hbIntervalDefaultStr_eq : hbIntervalDefaultStr = "5s" := by decide
theorem readTimeoutDefaultSecs_eq : readTimeoutDefaultSecs = 15 := by decide
theorem maxReqRetriesDefault_eq : maxReqRetriesDefault = 5 := by decide
theorem modes_eq : modes = ["af_packet", "af_xdp", "cndp", "dpdk", "sim"] := rfl
theorem init_logLevel : init.logLevel = infoLevel := by decide
theorem init_defaultTC : init.defaultTC = elasticTC := by decide

/-- the regenerated list has the first two modes in the other order -/
theorem mem_modes (m : String) : m ∈ modes ↔ m ∈ ["af_xdp", "af_packet", "cndp", "dpdk", "sim"] :=
  (List.Perm.swap "af_xdp" "af_packet" _).mem_iff

theorem mem_modes_or (m : String) :
    m ∈ modes ↔ (m = "af_xdp" ∨ m = "af_packet" ∨ m = "cndp" ∨ m = "dpdk" ∨ m = "sim") := by
  rw [mem_modes]; simp

theorem check_eq_none_iff (b : Bool) (e : Err) : check b e = none ↔ b = false := by
  unfold check; cases b <;> simp

theorem check_eq_some_iff (b : Bool) (e e' : Err) : check b e = some e' ↔ b = true ∧ e' = e := by
  unfold check; cases b <;> simp [eq_comm]

theorem validate_eq_none_iff (P : Preds) (c : C) : validate P c = none ↔ Sound P c := by
  unfold validate checks Sound
  simp only [List.findSome?_eq_none_iff, List.mem_cons, List.not_mem_nil, or_false, id, forall_eq_or_imp, forall_eq,
    check_eq_none_iff, Option.map_eq_none_iff, List.find?_eq_none]
  -- what is left is a reordering: on the left the checks in the code's order, on the right the clauses of `Sound`
  cases hp : c.enableP4rt <;> simp [← mem_modes_or]
  · exact ⟨fun ⟨mode, alloc, peers, resp, read, retr, hb⟩ => ⟨resp, read, retr, hb, mode, alloc, peers⟩,
      fun ⟨resp, read, retr, hb, mode, alloc, peers⟩ => ⟨mode, alloc, peers, resp, read, retr, hb⟩⟩
  · exact ⟨fun ⟨acc, pool, mode, alloc, peers, resp, read, retr, hb⟩ => ⟨resp, read, retr, hb, ⟨mode, acc, pool⟩, alloc, peers⟩,
      fun ⟨resp, read, retr, hb, ⟨mode, acc, pool⟩, alloc, peers⟩ => ⟨acc, pool, mode, alloc, peers, resp, read, retr, hb⟩⟩

/-- what a refusal means, error by error -/
def ErrMeans (P : Preds) (c : C) : Err → Prop
  | .decode => False
  | .accessIP => c.enableP4rt = true ∧ P.cidr c.accessIP = false
  | .uePoolP4 => c.enableP4rt = true ∧ P.cidr c.uePool = false
  | .modeP4 => c.enableP4rt = true ∧ c.mode ≠ ""
  | .modeBess => c.enableP4rt = false ∧ c.mode ∉ modes
  | .uePoolAlloc => c.enableUeIPAlloc = true ∧ P.cidr c.uePool = false
  | .peer p => p ∈ c.peers ∧ P.ip p = false
  | .respTimeout => P.dur c.respTimeout = false
  | .readTimeout => c.readTimeout = 0
  | .retries => c.maxReqRetries = 0
  | .hbInterval => c.enableHB = true ∧ P.dur c.hbInterval = false

theorem validate_some_means (P : Preds) (c : C) (e : Err) (h : validate P c = some e) : ErrMeans P c e := by
  obtain ⟨a, ha, hae⟩ := List.exists_of_findSome?_eq_some h
  cases (show a = some e from hae)
  by_cases hpe : some e = (c.peers.find? (fun p => !P.ip p)).map .peer
  · -- the peer check returned `e`
    obtain ⟨p, hp, rfl⟩ := Option.map_eq_some_iff.mp hpe.symm
    exact ⟨List.mem_of_find?_eq_some hp, by simpa using List.find?_some hp⟩
  · -- one of the `check b e'` did: `b` holds and `e` is its `e'`
    simp only [checks, List.mem_cons, List.not_mem_nil, or_false, hpe, false_or, @eq_comm _ (some e), check_eq_some_iff] at ha
    rcases ha with ⟨hb, rfl⟩ | ⟨hb, rfl⟩ | ⟨hb, rfl⟩ | ⟨hb, rfl⟩ | ⟨hb, rfl⟩ | ⟨hb, rfl⟩ | ⟨hb, rfl⟩ | ⟨hb, rfl⟩ | ⟨hb, rfl⟩
    all_goals simpa [ErrMeans] using hb

theorem validate_some_not_sound (P : Preds) (c : C) (e : Err) (h : validate P c = some e) : ¬ Sound P c := by
  intro hs
  rw [(validate_eq_none_iff P c).mpr hs] at h
  cases h

theorem defaults_filled (raw : C) : Filled raw (defaults raw) := by
  unfold Filled defaults
  simp only [respTimeoutDefaultStr_eq, hbIntervalDefaultStr_eq, readTimeoutDefaultSecs_eq, maxReqRetriesDefault_eq]
  refine ⟨trivial, trivial, trivial, ?_, ?_, trivial, trivial, trivial, trivial, trivial, trivial, trivial, trivial, trivial⟩
  · intro h; simp [h]
  · intro h; simp [h]

theorem defaults_idem (raw : C) : defaults (defaults raw) = defaults raw := by
  unfold defaults
  simp only [respTimeoutDefaultStr_eq, hbIntervalDefaultStr_eq, readTimeoutDefaultSecs_eq, maxReqRetriesDefault_eq]
  cases raw with
  | mk mode p4 acc pool alloc peers resp read retr hb hbi lvl tc =>
    simp only [C.mk.injEq, true_and]
    refine ⟨?_, ?_, ?_, ?_⟩
    · by_cases h : resp = "" <;> simp [h]
    · by_cases h : read = 0 <;> simp [h]
    · by_cases h : retr = 0 <;> simp [h]
    · by_cases h : hb = true ∧ hbi = ""
      · simp [h]
      · simp [h]

theorem finish_ok_iff (P : Preds) (raw c : C) : finish P raw = .ok c ↔ c = defaults raw ∧ Sound P (defaults raw) := by
  unfold finish
  simp only
  cases hv : validate P (defaults raw) with
  | none =>
    have := (validate_eq_none_iff P _).mp hv
    simp [this, eq_comm]
  | some e =>
    have := validate_some_not_sound P _ e hv
    simp [this]

theorem finish_error_iff (P : Preds) (raw : C) (e : Err) :
    finish P raw = .error e ↔ validate P (defaults raw) = some e := by
  unfold finish
  simp only
  cases hv : validate P (defaults raw) <;> simp

theorem finish_valid (P : Preds) (raw c : C) (h : finish P raw = .ok c) : Valid P raw c := by
  obtain ⟨rfl, hs⟩ := (finish_ok_iff P raw c).mp h
  exact ⟨hs, defaults_filled raw⟩

theorem finish_error_means (P : Preds) (raw : C) (e : Err) (h : finish P raw = .error e) :
    ErrMeans P (defaults raw) e ∧ ¬ Sound P (defaults raw) := by
  have hv := (finish_error_iff P raw e).mp h
  exact ⟨validate_some_means P _ e hv, validate_some_not_sound P _ e hv⟩

/-- after the defaults the two `== 0` checks of `validateConf` cannot fire (they are dead code in `LoadConfigFile`) -/
theorem finish_zero_checks_dead (P : Preds) (raw : C) :
    finish P raw ≠ .error .readTimeout ∧ finish P raw ≠ .error .retries ∧ finish P raw ≠ .error .decode := by
  refine ⟨?_, ?_, ?_⟩ <;> intro h <;> have hm := (finish_error_means P raw _ h).1
  · simp only [ErrMeans, defaults, readTimeoutDefaultSecs_eq] at hm
    split at hm <;> simp_all
  · simp only [ErrMeans, defaults, maxReqRetriesDefault_eq] at hm
    split at hm <;> simp_all
  · exact hm

theorem load_ok_iff (P : Preds) (d : Doc) (c : C) :
    load P d = .ok c ↔ ∃ raw, decode P d = some raw ∧ finish P raw = .ok c := by
  unfold load
  cases decode P d <;> simp

theorem load_valid (P : Preds) (d : Doc) (c : C) (h : load P d = .ok c) :
    ∃ raw, decode P d = some raw ∧ Valid P raw c := by
  obtain ⟨raw, hd, hf⟩ := (load_ok_iff P d c).mp h
  exact ⟨raw, hd, finish_valid P raw c hf⟩

theorem load_decode_error_iff (P : Preds) (d : Doc) : load P d = .error .decode ↔ decode P d = none := by
  unfold load
  cases hd : decode P d with
  | none => simp
  | some raw =>
    have := (finish_zero_checks_dead P raw).2.2
    simp only [reduceCtorEq, iff_false]
    exact this

theorem decode_fields (P : Preds) (d : Doc) (raw : C) (h : decode P d = some raw) :
    decStr "" d.mode = some raw.mode ∧ decBool false d.enableP4rt = some raw.enableP4rt ∧
    decStr "" d.accessIP = some raw.accessIP ∧ decStr "" d.uePool = some raw.uePool ∧
    decBool false d.enableUeIPAlloc = some raw.enableUeIPAlloc ∧ decPeers d.peers = some raw.peers ∧
    decStr "" d.respTimeout = some raw.respTimeout ∧ decUint 32 0 d.readTimeout = some raw.readTimeout ∧
    decUint 8 0 d.maxReqRetries = some raw.maxReqRetries ∧ decBool false d.enableHB = some raw.enableHB ∧
    decStr "" d.hbInterval = some raw.hbInterval ∧ decLevel P infoLevel d.logLevel = some raw.logLevel ∧
    decUint 8 elasticTC d.defaultTC = some raw.defaultTC := by
  unfold decode at h
  simp only [Option.bind_eq_bind, Option.bind_eq_some_iff, Option.pure_def, Option.some.injEq] at h
  obtain ⟨_, h1, _, h2, _, h3, _, h4, _, h5, _, h6, _, h7, _, h8, _, h9, _, h10, _, h11, _, h12, _, h13, rfl⟩ := h
  rw [init_logLevel] at h12
  rw [init_defaultTC] at h13
  exact ⟨h1, h2, h3, h4, h5, h6, h7, h8, h9, h10, h11, h12, h13⟩

/-- the log level and the default traffic class are set before decoding -/
theorem decode_pre_defaults (P : Preds) (d : Doc) (raw : C) (h : decode P d = some raw) :
    ((d.logLevel = .absent ∨ d.logLevel = .null) → raw.logLevel = infoLevel) ∧
    ((d.defaultTC = .absent ∨ d.defaultTC = .null) → raw.defaultTC = elasticTC) := by
  obtain ⟨-, -, -, -, -, -, -, -, -, -, -, dl, dt⟩ := decode_fields P d raw h
  constructor
  · rintro (ha | ha) <;> rw [ha] at dl <;> exact (Option.some.inj dl).symm
  · rintro (ha | ha) <;> rw [ha] at dt <;> exact (Option.some.inj dt).symm

end Conf
