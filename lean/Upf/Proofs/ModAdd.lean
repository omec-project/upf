import Upf.Proofs.ModWorld
import Upf.Proofs.Keeps
/-!
C03 / C05 / C06 / C07 on the agent model, Session Modifications that only create rules (Create PDR / FAR / QER): the created rules'
entries are upserted, nothing else changes, under the envelope `AddEnv`.
-/
namespace Agent

theorem parsePDR_id {seid : Nat} {apps : List (String × List String)} {ie : PdrIE} {pool pool' : Option Pool.P} {p : Pdr}
    (h : parsePDR seid apps ie pool = (.ok p, pool')) : p.pdrID = ie.id := by
  unfold parsePDR at h
  split at h
  · cases h
  · split at h
    · cases h
    · cases h; rfl

/-- the parsed rules carry the IDs of their IEs, in order -/
theorem parsePdrs_ids (seid ip : Nat) (apps : List (String × List String)) :
    ∀ (ies : List PdrIE) (pool pool' : Option Pool.P) (cp : List Pdr), parsePdrs seid ip apps ies pool = .ok (cp, pool') →
    cp.map (·.pdrID) = ies.map (·.id)
  | [], _, _, _, h => by cases h; rfl
  | ie :: rest, pool, pool', cp, h => by
    unfold parsePdrs at h
    cases hp : parsePDR seid apps ie pool with
    | mk res pool1 =>
    rw [hp] at h
    cases res with
    | error e => cases h
    | ok p =>
      dsimp only at h
      cases hr : parsePdrs seid ip apps rest pool1 with
      | error e => rw [hr] at h; cases h
      | ok v =>
        rw [hr] at h
        cases h
        rw [List.map_cons, List.map_cons, parsePdrs_ids seid ip apps rest pool1 _ _ hr]
        exact congrArg (· :: _) (parsePDR_id hp : p.pdrID = ie.id)

/-- the envelope of a create-only modification, for the rules it parsed: new IDs, no CHOOSE F-TEID, keys no other session has, and a
session-QER marking that is stable for the enlarged rule set -/
structure AddEnv (cfg : Cfg) (w : World) (r : ModReq) (s0 : Session) (cp : List Pdr) (cf : List Far) : Prop where
  stable : markSessionQer (s0.pdrs ++ cp) (s0.qers ++ createdQers r) = (s0.qers ++ createdQers r, s0.pdrs ++ cp)
  newP : ∀ p ∈ cp, ∀ q ∈ s0.pdrs, q.pdrID ≠ p.pdrID
  ndP : (cp.map (·.pdrID)).Nodup
  newQ : ∀ p ∈ createdQers r, ∀ q ∈ s0.qers, q.qerID ≠ p.qerID
  ndQ : ((createdQers r).map (·.qerID)).Nodup
  noChoose : ∀ p ∈ cp, p.chooseTeid = false
  keys : ∀ x ∈ allSessions w, x.lseid ≠ s0.lseid → ∀ X k,
    k ∈ ({ lseid := 0, rseid := 0, pdrs := cp, fars := cf, qers := createdQers r } : Session).keysOf cfg X → k ∉ x.keysOf cfg X

theorem Session.kv_append (cfg : Cfg) (s0 C S : Session) (hp : S.pdrs = s0.pdrs ++ C.pdrs) (hf : S.fars = s0.fars ++ C.fars)
    (hq : S.qers = s0.qers ++ C.qers) (X : Tb) : S.kv cfg X = s0.kv cfg X ++ C.kv cfg X := by
  cases X <;> simp [Session.kv, pdrKV, farKV, appQerKV, sessQerKV, hp, hf, hq]

theorem modify_addOnly_ok (cfg : Cfg) (w : World) (a : Nat) (r : ModReq) (s0 : Session) (hr : AddOnly r)
    (h : (w.conn a).sessions.find? (·.lseid = r.seid) = some s0)
    (cp : List Pdr) (pool1 : Option Pool.P) (cf : List Far)
    (hp : parsePdrs r.seid (fseidIPOf' r) (w.conn a).apps r.createPdrs w.pool = .ok (cp, pool1))
    (hf : mapFars cfg r.seid (fseidIPOf' r) false r.createFars = .ok cf)
    (N : NewRules r s0 cp) :
    (modify cfg w a r).world =
      { w with conns := putSession w a r.seid (afterMod r s0 (s0.pdrs ++ cp) (s0.fars ++ cf) (s0.qers ++ createdQers r)),
               pool := pool1, tables := sendAdd cfg w.tables cp cf (createdQers r) } := by
  have := modify_parsed cfg w a r s0 hr.noUpd h cp pool1 cf [] hp hf (by rw [hr.noFarUpd]; rfl) N
  rw [hr.removeMod_eq] at this
  simpa only [updFars, sendDel, freeAll, List.foldl_nil, List.append_nil] using this

theorem modAdd_step (cfg : Cfg) (w : World) (a : Nat) (r : ModReq) (s0 : Session) (hI : Inv cfg w) (hr : AddOnly r)
    (h : (w.conn a).sessions.find? (·.lseid = r.seid) = some s0)
    (henv : ∀ cp pool1 cf, parsePdrs r.seid (fseidIPOf' r) (w.conn a).apps r.createPdrs w.pool = .ok (cp, pool1) →
      mapFars cfg r.seid (fseidIPOf' r) false r.createFars = .ok cf → AddEnv cfg w r s0 cp cf) :
    Inv cfg (modify cfg w a r).world ∧ Keeps w (modify cfg w a r).world := by
  have hl : s0.lseid = r.seid := key_of_find? h
  have hs0 : s0 ∈ allSessions w := mem_conn_all hI.keys (List.mem_of_find?_eq_some h)
  have hpool := parsePdrs_pool r.seid (fseidIPOf' r) (w.conn a).apps r.createPdrs w.pool
  rcases modify_refused_or_parsed cfg w a r s0 hr.1 h with hw | ⟨cp, pool1, cf, _, hp, hf, _⟩
  · exact ⟨by rw [hw]; exact hI.congr rfl rfl, .poolOnly hw fun k hk => (hpool.keys k hk).imp_right fun e => ⟨s0, hs0, hl.trans e.symm⟩⟩
  · rw [hp] at hpool
    have E := henv cp pool1 cf hp hf
    have hw := modify_addOnly_ok cfg w a r s0 hr h cp pool1 cf hp hf ⟨E.stable, E.newP, E.ndP, E.newQ, E.ndQ⟩
    have T : Trans w (modify cfg w a r).world [s0] [afterMod r s0 (s0.pdrs ++ cp) (s0.fars ++ cf) (s0.qers ++ createdQers r)] :=
      .replace hI.storeWf h (by rw [hw])
    have hnil : chosenL cp = [] := by
      unfold chosenL; rw [List.filter_eq_nil_iff.mpr (fun p hp' => by simp [E.noChoose p hp'])]; rfl
    have hkv := Session.kv_append cfg s0 (.ofRules cp cf (createdQers r)) (afterMod r s0 (s0.pdrs ++ cp) (s0.fars ++ cf) (s0.qers ++ createdQers r))
      rfl rfl rfl
    refine ⟨hI.replace T rfl (fun x hx hd X k hk => ?_) fun R hpw hp' hi => ?_,
      .replace T rfl (D := []) (hg := by rw [hw]; rfl)
        (hc := by show (chosenL s0.pdrs).Perm (chosenL (s0.pdrs ++ cp)); rw [chosenL_append, hnil, List.append_nil])
        (hk := fun k hk => by rw [hw] at hk; exact hl ▸ hpool.keys k hk)
        (hf := fun h0 q hq => (List.mem_append.mp hq).elim (h0 q) fun h1 =>
          (mapFars_fse hf q h1).trans hl.symm)⟩
    · unfold Session.keysOf at hk
      rw [hkv X, List.map_append] at hk
      exact (List.mem_append.mp hk).imp_right (E.keys x hx hd.lseid_ne.symm X k)
    · rw [hw]
      refine ImgOf.upsert [s0] [_] (.ofRules cp cf (createdQers r)) hi hpw hp' fun X k => ?_
      rw [valOf_single, valOf_single, hkv X, lastVal_append]

end Agent
