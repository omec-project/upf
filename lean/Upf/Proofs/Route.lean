import Upf.Model.Route
import Upf.Proofs.ListKeys
/-!
The invariant of the route controller model (C20). `Inv` falls into three parts (`inv_iff`): the kernel's own discipline; `installed`
and `pending` each list, without repetition, the kernel's routes whose next hop is resolved resp. unresolved (`Sel`, a notion about
lists alone); and `W`, which relates `installed` to the neighbour cache and bessd's modules. Every handler touches the data of one
next hop only, so `W` is re-established by one lemma (`W.update`) from the row of that next hop. `inv_step`: every event inside the
envelope (`Ev.ok`) preserves `Inv`; it serves `reach_inv` for the inductive `Reach` and `run_inv` for explicit event lists, the form
C20 states its theorems in.
-/
namespace Route
variable {ifOf : Nat → Nat} {s : St} {r : R} {nh g c : Nat} {l : List (R × Nat)}

section
variable {α : Type}
def Sel (p : α → Prop) (K L : List α) : Prop := L.Nodup ∧ ∀ x, x ∈ L ↔ x ∈ K ∧ p x

namespace Sel
variable {p q : α → Prop} {K L L' : List α} {x : α}

theorem perm (h : Sel p K L) (hp : L.Perm L') : Sel p K L' :=
  ⟨hp.nodup_iff.mp h.1, fun x => hp.mem_iff.symm.trans (h.2 x)⟩

theorem congr (h : Sel p K L) (hpq : ∀ x, p x ↔ q x) : Sel q K L :=
  ⟨h.1, fun x => (h.2 x).trans (and_congr_right fun _ => hpq x)⟩

theorem cons_pos (h : Sel p K L) (hx : x ∉ K) (hp : p x) : Sel p (x :: K) (x :: L) :=
  ⟨List.nodup_cons.mpr ⟨fun hl => hx ((h.2 x).mp hl).1, h.1⟩, fun y => by
    rw [List.mem_cons, List.mem_cons, h.2 y, or_and_right]
    exact or_congr_left ⟨fun e => ⟨e, e ▸ hp⟩, And.left⟩⟩

theorem cons_neg (h : Sel p K L) (hp : ¬ p x) : Sel p (x :: K) L :=
  ⟨h.1, fun y => by
    rw [List.mem_cons, h.2 y, or_and_right]
    exact (or_iff_right fun (e : y = x ∧ p y) => hp (e.1 ▸ e.2)).symm⟩

theorem erase [BEq α] [LawfulBEq α] (h : Sel p K L) (hK : K.Nodup) (x : α) : Sel p (K.erase x) (L.erase x) :=
  ⟨h.1.erase x, fun y => by rw [h.1.mem_erase_iff, hK.mem_erase_iff, h.2 y, and_assoc]⟩

theorem filter (h : Sel p K L) (n : α → Bool) : Sel (fun x => p x ∧ n x = true) K (L.filter n) :=
  ⟨h.1.filter n, fun y => by rw [List.mem_filter, h.2 y, and_assoc]⟩

theorem append (h : Sel p K L) (h' : Sel q K L') (hd : ∀ x, p x → q x → False) :
    Sel (fun x => p x ∨ q x) K (L ++ L') :=
  ⟨List.nodup_append.mpr ⟨h.1, h'.1, fun a ha b hb e => hd a ((h.2 a).mp ha).2 (e ▸ ((h'.2 b).mp hb).2)⟩,
   fun y => by rw [List.mem_append, h.2 y, h'.2 y, and_or_left]⟩
end Sel
end

theorem cnt_cons (nh : Nat) (e : R × Nat) (l : List (R × Nat)) :
    cnt nh (e :: l) = cnt nh l + if e.1.nh = nh then 1 else 0 := by
  unfold cnt
  by_cases h : e.1.nh = nh <;> simp [h]

theorem cnt_pos_iff : 0 < cnt nh l ↔ ∃ e ∈ l, e.1.nh = nh := by
  simp [cnt, List.length_filter_pos_iff]

theorem not_mem_of_cnt_zero {e : R × Nat} (h0 : cnt nh l = 0) (hen : e.1.nh = nh) : e ∉ l :=
  fun he => Nat.lt_irrefl 0 (h0 ▸ cnt_pos_iff.mpr ⟨e, he, hen⟩)

theorem map_fst_filter_ne (hN : (l.map (·.1)).Nodup) (r : R) :
    (l.filter (·.1 != r)).map (·.1) = (l.map (·.1)).erase r := by
  rw [hN.erase_eq_filter, List.filter_map]; rfl

theorem cnt_remove (hN : (l.map (·.1)).Nodup) (r : R) (nh : Nat) :
    cnt nh l = cnt nh (l.filter (·.1 != r)) + if r ∈ l.map (·.1) ∧ r.nh = nh then 1 else 0 := by
  have hc : ∀ l : List (R × Nat), cnt nh l = (l.map (·.1)).countP (·.nh == nh) := fun l => by
    rw [List.countP_map, List.countP_eq_length_filter]; rfl
  rw [hc, hc, map_fst_filter_ne hN]
  by_cases hr : r ∈ l.map (·.1)
  · rw [(List.perm_cons_erase hr).countP_eq, List.countP_cons]; simp [hr]
  · rw [List.erase_of_not_mem hr, if_neg fun c => hr c.1]; rfl

/-- the third part of `Inv` (see `inv_iff`): how `installed` relates to the neighbour cache, bessd's Update modules and
the gate counters; it speaks of neither the kernel's routes nor the waiting list -/
structure W (ifOf : Nat → Nat) (s : St) : Prop where
  instN : (s.installed.map (·.1)).Nodup
  ngh  : ∀ nh, match s.neigh nh with
               | some (g, c) => c = cnt nh s.installed ∧ 1 ≤ c ∧ g < s.gateCnt (ifOf nh) ∧
                                s.mods (ifOf nh) nh = some g ∧ (∀ e ∈ s.installed, e.1.nh = nh → e.2 = g)
               | none => cnt nh s.installed = 0 ∧ s.mods (ifOf nh) nh = none
  modsIf : ∀ i nh, i ≠ ifOf nh → s.mods i nh = none
  gates : ∀ a b g h c d, s.neigh a = some (g, c) → s.neigh b = some (h, d) → a ≠ b → ifOf a = ifOf b → g ≠ h

theorem Inv.toW {s : St} (h : Inv ifOf s) : W ifOf s := ⟨h.instN, h.ngh, h.modsIf, h.gates⟩

/-- the body of the `ngh` fields of `Inv` and of `W`, written out a third time so that it has a name: `h.ngh nh` is a
proof of `Row ifOf s nh` by unfolding, which is how `row_some` and `row_none` are applied to it -/
def Row (ifOf : Nat → Nat) (s : St) (nh : Nat) : Prop :=
  match s.neigh nh with
  | some (g, c) => c = cnt nh s.installed ∧ 1 ≤ c ∧ g < s.gateCnt (ifOf nh) ∧
                   s.mods (ifOf nh) nh = some g ∧ (∀ e ∈ s.installed, e.1.nh = nh → e.2 = g)
  | none => cnt nh s.installed = 0 ∧ s.mods (ifOf nh) nh = none

theorem row_some (hn : s.neigh nh = some (g, c)) :
    Row ifOf s nh ↔ c = cnt nh s.installed ∧ 1 ≤ c ∧ g < s.gateCnt (ifOf nh) ∧
      s.mods (ifOf nh) nh = some g ∧ (∀ e ∈ s.installed, e.1.nh = nh → e.2 = g) := by
  unfold Row; rw [hn]

theorem row_none (hn : s.neigh nh = none) :
    Row ifOf s nh ↔ cnt nh s.installed = 0 ∧ s.mods (ifOf nh) nh = none := by
  unfold Row; rw [hn]

/-- `W` after a handler: `n` is the one next hop it touched -/
theorem W.update {s s' : St} (h : W ifOf s) (n : Nat)
    (hI : (s'.installed.map (·.1)).Nodup) (hrow : Row ifOf s' n)
    (hfr : ∀ nh, nh ≠ n → s'.neigh nh = s.neigh nh ∧ cnt nh s'.installed = cnt nh s.installed ∧
      (∀ e ∈ s'.installed, e.1.nh = nh → e ∈ s.installed) ∧ s'.mods (ifOf nh) nh = s.mods (ifOf nh) nh)
    (hG : ∀ i, s.gateCnt i ≤ s'.gateCnt i)
    (hM : ∀ i nh, i ≠ ifOf nh → s'.mods i nh = none)
    (hgate : ∀ g c, s'.neigh n = some (g, c) → ∀ b h d, b ≠ n → s.neigh b = some (h, d) →
      ifOf b = ifOf n → g ≠ h) : W ifOf s' := by
  refine ⟨hI, fun nh => ?_, hM, fun a b g1 g2 c1 c2 ha hb hab hiab => ?_⟩
  · by_cases e : nh = n
    · exact e ▸ hrow
    · obtain ⟨hn, hc, hsub, hm⟩ := hfr nh e
      cases hs : s.neigh nh with
      | none => exact (row_none (hn.trans hs)).mpr (by rw [hc, hm]; exact (row_none hs).mp (h.ngh nh))
      | some gc =>
        obtain ⟨a1, a2, a3, a4, a5⟩ := (row_some hs).mp (h.ngh nh)
        exact (row_some (hn.trans hs)).mpr ⟨hc ▸ a1, a2, Nat.lt_of_lt_of_le a3 (hG _), hm ▸ a4,
          fun e he hen => a5 e (hsub e he hen) hen⟩
  · by_cases ea : a = n <;> by_cases eb : b = n
    · exact absurd (ea.trans eb.symm) hab
    · exact hgate g1 c1 (ea ▸ ha) b g2 c2 eb ((hfr b eb).1 ▸ hb) (ea ▸ hiab.symm)
    · exact (hgate g2 c2 (eb ▸ hb) a g1 c1 ea ((hfr a ea).1 ▸ ha) (eb ▸ hiab)).symm
    · exact h.gates a b g1 g2 c1 c2 ((hfr a ea).1 ▸ ha) ((hfr b eb).1 ▸ hb) hab hiab

theorem w_addNeighbor (h : W ifOf s) (hnew : r ∉ s.installed.map (·.1)) (hif : r.ifc = ifOf r.nh) :
    W ifOf (addNeighbor s r) := by
  have hI : ∀ g, (((r, g) :: s.installed).map (·.1)).Nodup := fun _ => List.nodup_cons.mpr ⟨hnew, h.instN⟩
  have hfr : ∀ (g nh : Nat), nh ≠ r.nh → cnt nh ((r, g) :: s.installed) = cnt nh s.installed ∧
      ∀ e ∈ (r, g) :: s.installed, e.1.nh = nh → e ∈ s.installed := fun g nh e =>
    ⟨by rw [cnt_cons, if_neg (Ne.symm e)]; rfl, fun e' he' hen => by
      rcases List.mem_cons.mp he' with rfl | h'
      · exact absurd hen.symm e
      · exact h'⟩
  unfold addNeighbor
  cases hn : s.neigh r.nh with
  | some gc =>
    obtain ⟨g, c⟩ := gc
    obtain ⟨hc, h1, hg, hm, hall⟩ := (row_some hn).mp (h.ngh r.nh)
    refine h.update r.nh (hI g) ((row_some (if_pos rfl)).mpr ⟨?_, Nat.le_add_left 1 c, hg, hm, ?_⟩)
      (fun nh e => ⟨if_neg e, (hfr g nh e).1, (hfr g nh e).2, rfl⟩) (fun _ => Nat.le_refl _) h.modsIf ?_
    · show c + 1 = cnt r.nh ((r, g) :: s.installed)
      rw [cnt_cons, if_pos rfl, hc]
    · exact List.forall_mem_cons.mpr ⟨fun _ => rfl, hall⟩
    · intro g' c' hg' b h' d hb hnb hib
      cases (if_pos rfl).symm.trans hg'
      exact (h.gates r.nh b g h' c d hn hnb (Ne.symm hb) hib.symm)
  | none =>
    obtain ⟨hc0, hm0⟩ := (row_none hn).mp (h.ngh r.nh)
    refine h.update r.nh (hI _) ((row_some (if_pos rfl)).mpr ⟨?_, Nat.le_refl 1, ?_, ?_, ?_⟩)
      (fun nh e => ⟨if_neg e, (hfr _ nh e).1, (hfr _ nh e).2, if_neg fun c => e c.2⟩) (fun i => ?_) (fun i nh e => ?_) ?_
    · show 1 = cnt r.nh ((r, s.gateCnt r.ifc) :: s.installed)
      rw [cnt_cons, if_pos rfl, hc0]
    · show s.gateCnt r.ifc < if ifOf r.nh = r.ifc then s.gateCnt r.ifc + 1 else _
      rw [if_pos hif.symm]; exact Nat.lt_succ_self _
    · exact if_pos ⟨hif.symm, rfl⟩
    · exact List.forall_mem_cons.mpr ⟨fun _ => rfl, fun e he hen => absurd he (not_mem_of_cnt_zero hc0 hen)⟩
    · show _ ≤ if i = r.ifc then s.gateCnt r.ifc + 1 else s.gateCnt i
      split
      · subst i; exact Nat.le_succ _
      · exact Nat.le_refl _
    · exact (if_neg fun c => e (c.1.trans (hif.trans (congrArg ifOf c.2.symm)))).trans (h.modsIf i nh e)
    · intro g' c' hg' b h' d hb hnb hib
      cases (if_pos rfl).symm.trans hg'
      have := ((row_some hnb).mp (h.ngh b)).2.2.1
      rw [hib, ← hif] at this
      exact (Nat.ne_of_lt this).symm

theorem delRoute_none (s : St) (r : R) (h : s.neigh r.nh = none) :
    delRoute s r = { s with kernel := s.kernel.erase r, pending := s.pending.erase r } := by
  simp [delRoute, h]

theorem delRoute_some (s : St) (r : R) (h : s.neigh r.nh = some (g, c)) :
    delRoute s r = { s with kernel := s.kernel.erase r,
                            installed := s.installed.filter (fun e => e.1 != r),
                            mods := if c = 1 then fun i x => if i = r.ifc ∧ x = r.nh then none else s.mods i x
                                    else s.mods,
                            neigh := fun x => if x = r.nh then (if c = 1 then none else some (g, c - 1))
                                              else s.neigh x } := by
  by_cases hc : c = 1 <;> simp [delRoute, h, hc]

theorem w_delRoute (h : W ifOf s) (hn : s.neigh r.nh = some (g, c)) (hr : r ∈ s.installed.map (·.1))
    (hif : r.ifc = ifOf r.nh) : W ifOf (delRoute s r) := by
  have hI : ((s.installed.filter (·.1 != r)).map (·.1)).Nodup := (List.filter_sublist.map _).nodup h.instN
  have hcnt := cnt_remove h.instN r
  have hfr : ∀ nh, nh ≠ r.nh → cnt nh (s.installed.filter (·.1 != r)) = cnt nh s.installed ∧
      ∀ e ∈ s.installed.filter (·.1 != r), e.1.nh = nh → e ∈ s.installed := fun nh e =>
    ⟨by rw [hcnt nh, if_neg fun c => e c.2.symm]; rfl, fun e' he' _ => (List.mem_filter.mp he').1⟩
  obtain ⟨hc, h1, hg, hm, hall⟩ := (row_some hn).mp (h.ngh r.nh)
  have hc' := hcnt r.nh
  rw [if_pos ⟨hr, rfl⟩, ← hc] at hc'
  rw [delRoute_some s r hn]
  by_cases hc1 : c = 1 <;> simp only [hc1, ↓reduceIte]
  · subst hc1
    refine h.update r.nh hI ((row_none (if_pos rfl)).mpr ⟨(Nat.succ.inj hc').symm, if_pos ⟨hif.symm, rfl⟩⟩)
      (fun nh e => ⟨if_neg e, (hfr nh e).1, (hfr nh e).2, if_neg fun c => e c.2⟩) (fun _ => Nat.le_refl _)
      (fun i nh e => ?_) (fun g' c' hg' => nomatch (if_pos rfl).symm.trans hg')
    show (if i = r.ifc ∧ nh = r.nh then none else s.mods i nh) = none
    split
    · rfl
    · exact h.modsIf i nh e
  · refine h.update r.nh hI ((row_some (if_pos rfl)).mpr ⟨Nat.sub_eq_of_eq_add hc',
        Nat.le_sub_one_of_lt (Nat.lt_of_le_of_ne h1 (Ne.symm hc1)), hg, hm,
        fun e he => hall e (List.mem_filter.mp he).1⟩)
      (fun nh e => ⟨if_neg e, (hfr nh e).1, (hfr nh e).2, rfl⟩) (fun _ => Nat.le_refl _) h.modsIf ?_
    intro g' c' hg' b h' d hb hnb hib
    cases (if_pos rfl).symm.trans hg'
    exact h.gates r.nh b g h' c d hn hnb (Ne.symm hb) hib.symm

theorem W.env_free (h : W ifOf s) (k : List R) (kn : Nat → Bool) (p : List R) :
    W ifOf { s with kernel := k, known := kn, pending := p } := ⟨h.instN, h.ngh, h.modsIf, h.gates⟩

@[simp] theorem addNeighbor_kernel (s : St) (r : R) : (addNeighbor s r).kernel = s.kernel := by
  unfold addNeighbor; split <;> rfl
@[simp] theorem addNeighbor_known (s : St) (r : R) : (addNeighbor s r).known = s.known := by
  unfold addNeighbor; split <;> rfl
@[simp] theorem addNeighbor_pending (s : St) (r : R) : (addNeighbor s r).pending = s.pending := by
  unfold addNeighbor; split <;> rfl
@[simp] theorem addNeighbor_routes (s : St) (r : R) :
    (addNeighbor s r).installed.map (·.1) = r :: s.installed.map (·.1) := by
  unfold addNeighbor; split <;> rfl

theorem foldl_addNeighbor {α} (f : St → α) (hf : ∀ s r, f (addNeighbor s r) = f s) :
    ∀ (l : List R) (s : St), f (l.foldl addNeighbor s) = f s
  | [], _ => rfl
  | b :: bs, s => (foldl_addNeighbor f hf bs _).trans (hf s b)

theorem foldl_addNeighbor_routes : ∀ (l : List R) (s : St),
    (l.foldl addNeighbor s).installed.map (·.1) = l.reverse ++ s.installed.map (·.1)
  | [], _ => rfl
  | b :: bs, s => by
    rw [List.foldl_cons, foldl_addNeighbor_routes bs, addNeighbor_routes, List.reverse_cons, List.append_assoc]; rfl

theorem w_foldl : ∀ (l : List R) (s : St), W ifOf s → l.Nodup →
    (∀ x ∈ l, x ∉ s.installed.map (·.1) ∧ x.ifc = ifOf x.nh) → W ifOf (l.foldl addNeighbor s)
  | [], _, h, _, _ => h
  | b :: bs, s, h, hnd, hl => by
    obtain ⟨hb, hbs⟩ := List.forall_mem_cons.mp hl
    obtain ⟨hnb, hnd'⟩ := List.nodup_cons.mp hnd
    refine w_foldl bs _ (w_addNeighbor h hb.1 hb.2) hnd' fun x hx => ⟨?_, (hbs x hx).2⟩
    rw [addNeighbor_routes, List.mem_cons, not_or]
    exact ⟨fun e => hnb (e ▸ hx), (hbs x hx).1⟩

def KernelOk (ifOf : Nat → Nat) (k : List R) : Prop := (k.map R.key).Nodup ∧ ∀ r ∈ k, r.ifc = ifOf r.nh

theorem KernelOk.cons {k : List R} (h : KernelOk ifOf k) (hif : r.ifc = ifOf r.nh) (hkey : r.key ∉ k.map R.key) :
    KernelOk ifOf (r :: k) :=
  ⟨List.nodup_cons.mpr ⟨hkey, h.1⟩, List.forall_mem_cons.mpr ⟨hif, h.2⟩⟩

theorem KernelOk.erase {k : List R} (h : KernelOk ifOf k) (r : R) : KernelOk ifOf (k.erase r) :=
  ⟨(List.erase_sublist.map _).nodup h.1, fun x hx => h.2 x (List.mem_of_mem_erase hx)⟩

theorem inv_iff : Inv ifOf s ↔
    KernelOk ifOf s.kernel ∧ Sel (fun r => s.known r.nh = true) s.kernel (s.installed.map (·.1)) ∧
    Sel (fun r => s.known r.nh = false) s.kernel s.pending ∧ W ifOf s :=
  ⟨fun h => ⟨⟨h.keyN, h.kif⟩, ⟨h.instN, h.inst⟩, ⟨h.pendN, h.pend⟩, h.toW⟩,
   fun ⟨⟨hk, hif⟩, hI, hP, hW⟩ =>
    ⟨hk.of_map _ fun _ _ h e => h (e ▸ rfl), hif, hk, hI.2, hI.1, hP.2, hP.1, hW.ngh, hW.modsIf, hW.gates⟩⟩

theorem inv_newRoute (h : Inv ifOf s) (hif : r.ifc = ifOf r.nh) (hkey : r.key ∉ s.kernel.map R.key) :
    Inv ifOf (newRoute s r) := by
  obtain ⟨hK, hI, hP, hW⟩ := inv_iff.mp h
  have hfresh : r ∉ s.kernel := fun hin => hkey (List.mem_map_of_mem hin)
  have hK' := hK.cons hif hkey
  unfold newRoute
  dsimp only
  split
  · next hk =>
    refine inv_iff.mpr ⟨?_, ?_, ?_, w_addNeighbor (hW.env_free _ _ _) (fun hin => hfresh ((hI.2 r).mp hin).1) hif⟩
    · rw [addNeighbor_kernel]; exact hK'
    · rw [addNeighbor_routes, addNeighbor_kernel, addNeighbor_known]; exact hI.cons_pos hfresh hk
    · rw [addNeighbor_pending, addNeighbor_kernel, addNeighbor_known]
      exact hP.cons_neg (by simp [show s.known r.nh = true from hk])
  · next hk =>
    exact inv_iff.mpr ⟨hK', hI.cons_neg hk, (hP.cons_pos hfresh (by simpa using hk)).perm
      (List.perm_append_singleton r _).symm, hW.env_free _ _ _⟩

theorem inv_newNeigh (h : Inv ifOf s) (nh : Nat) : Inv ifOf (newNeigh s nh) := by
  obtain ⟨hK, hI, hP, hW⟩ := inv_iff.mp h
  have hB := hP.filter (·.nh == nh)
  unfold newNeigh
  dsimp only
  refine inv_iff.mpr ⟨?_, ?_, ?_, w_foldl _ _ (hW.env_free _ _ _) hB.1 fun x hx => ?_⟩
  · rw [foldl_addNeighbor (·.kernel) addNeighbor_kernel]; exact hK
  · rw [foldl_addNeighbor_routes, foldl_addNeighbor (·.kernel) addNeighbor_kernel,
      foldl_addNeighbor (·.known) addNeighbor_known]
    refine ((hB.perm (List.reverse_perm _).symm).append hI fun x hx hx' => ?_).congr fun x => ?_
    · simp [hx'] at hx
    · by_cases e : x.nh = nh <;> cases hk : s.known x.nh <;> simp [e, hk]
  · rw [foldl_addNeighbor (·.pending) addNeighbor_pending, foldl_addNeighbor (·.kernel) addNeighbor_kernel,
      foldl_addNeighbor (·.known) addNeighbor_known]
    exact (hP.filter (·.nh != nh)).congr fun x => by by_cases e : x.nh = nh <;> simp [e]
  · have := (hB.2 x).mp hx
    exact ⟨fun hin => by simp [((hI.2 x).mp hin).2] at this, hK.2 x this.1⟩

theorem inv_delRoute (h : Inv ifOf s) (hin : r ∈ s.kernel) : Inv ifOf (delRoute s r) := by
  obtain ⟨hK, hI, hP, hW⟩ := inv_iff.mp h
  have hK' := hK.erase r
  have hI' := hI.erase h.kn r
  have hP' := hP.erase h.kn r
  cases hn : s.neigh r.nh with
  | none =>
    -- no cache entry: no route through `r.nh` is installed, `r` is waiting
    have hni : r ∉ s.installed.map (·.1) := fun hi => by
      obtain ⟨e, he, rfl⟩ := List.mem_map.mp hi
      exact not_mem_of_cnt_zero ((row_none hn).mp (hW.ngh _)).1 rfl he
    rw [List.erase_of_not_mem hni] at hI'
    rw [delRoute_none s r hn]
    exact inv_iff.mpr ⟨hK', hI', hP', hW.env_free _ _ _⟩
  | some gc =>
    -- a cache entry: some route through `r.nh` is installed, so its MAC is known and `r` is installed too
    obtain ⟨g, c⟩ := gc
    obtain ⟨hc, h1, -⟩ := (row_some hn).mp (hW.ngh _)
    obtain ⟨e, he, hen⟩ := cnt_pos_iff.mp (hc ▸ h1)
    have hkn : s.known r.nh = true := hen ▸ ((hI.2 e.1).mp (List.mem_map_of_mem he)).2
    have hnp : r ∉ s.pending := fun hp => Bool.noConfusion (hkn.symm.trans ((hP.2 r).mp hp).2)
    rw [List.erase_of_not_mem hnp] at hP'
    rw [← map_fst_filter_ne hW.instN r] at hI'
    have hW' := w_delRoute hW hn ((hI.2 r).mpr ⟨hin, hkn⟩) (hK.2 r hin)
    rw [delRoute_some s r hn] at hW' ⊢
    exact inv_iff.mpr ⟨hK', hI', hP', hW'⟩

theorem inv_step (s : St) (e : Ev) (h : Inv ifOf s) (hok : e.ok ifOf s) : Inv ifOf (step s e) := by
  cases e with
  | newRoute r => exact inv_newRoute h hok.1 hok.2
  | delRoute r => exact inv_delRoute h hok
  | newNeigh nh => exact inv_newNeigh h nh

theorem installed_iff (s : St) (h : Inv ifOf s) (r : R) :
    r ∈ s.installed.map (·.1) ↔ (r ∈ s.kernel ∧ s.known r.nh = true) := h.inst r

theorem installed_kernel (h : Inv ifOf s) {e : R × Nat} (he : e ∈ s.installed) : e.1 ∈ s.kernel :=
  ((h.inst e.1).mp (List.mem_map_of_mem he)).1

theorem installed_if (s : St) (h : Inv ifOf s) (e : R × Nat) (he : e ∈ s.installed) : e.1.ifc = ifOf e.1.nh :=
  h.kif e.1 (installed_kernel h he)

/-- the gate of an installed route is the gate linked to the Update module of its next hop on its interface:
all routes through one next hop share that gate and that module -/
theorem shared_gate (s : St) (h : Inv ifOf s) (e : R × Nat) (he : e ∈ s.installed) :
    s.mods e.1.ifc e.1.nh = some e.2 := by
  rw [installed_if s h e he]
  cases hn : s.neigh e.1.nh with
  | none => exact absurd he (not_mem_of_cnt_zero ((row_none hn).mp (h.ngh _)).1 rfl)
  | some gc =>
    obtain ⟨-, -, -, hm, hall⟩ := (row_some hn).mp (h.ngh _)
    rw [hm, hall e he rfl]

theorem mods_neigh (s : St) (h : Inv ifOf s) (i nh g : Nat) (hm : s.mods i nh = some g) :
    i = ifOf nh ∧ ∃ c, s.neigh nh = some (g, c) := by
  have hi : i = ifOf nh := Decidable.by_contra fun e => nomatch (h.modsIf i nh e).symm.trans hm
  subst hi
  refine ⟨rfl, ?_⟩
  cases hn : s.neigh nh with
  | none => exact nomatch ((row_none hn).mp (h.ngh nh)).2.symm.trans hm
  | some gc =>
    cases ((row_some hn).mp (h.ngh nh)).2.2.2.1.symm.trans hm
    exact ⟨_, rfl⟩

/-- a MAC-rewrite module exists iff some installed route on that interface uses that next hop -/
theorem module_iff_used (s : St) (h : Inv ifOf s) (i nh : Nat) :
    (s.mods i nh).isSome ↔ ∃ e ∈ s.installed, e.1.ifc = i ∧ e.1.nh = nh := by
  constructor
  · intro hs
    obtain ⟨g, hg⟩ := Option.isSome_iff_exists.mp hs
    obtain ⟨rfl, c, hn⟩ := mods_neigh s h i nh g hg
    obtain ⟨hc, h1, -⟩ := (row_some hn).mp (h.ngh nh)
    obtain ⟨e, he, hen⟩ := cnt_pos_iff.mp (hc ▸ h1)
    exact ⟨e, he, hen ▸ installed_if s h e he, hen⟩
  · rintro ⟨e, he, rfl, rfl⟩
    rw [shared_gate s h e he]; rfl

/-- two live next hops on one interface never share a gate -/
theorem gates_distinct (s : St) (h : Inv ifOf s) (i a b g g' : Nat)
    (ha : s.mods i a = some g) (hb : s.mods i b = some g') (hab : a ≠ b) : g ≠ g' := by
  obtain ⟨hia, ca, hna⟩ := mods_neigh s h i a g ha
  obtain ⟨hib, cb, hnb⟩ := mods_neigh s h i b g' hb
  exact h.gates a b g g' ca cb hna hnb hab (hia.symm.trans hib)

/-- a lookup table holds at most one entry per (interface, prefix): bessd's `delete prefix` removes exactly the
route it was issued for, and `add` never replaces another route's entry -/
theorem table_keys_unique (s : St) (h : Inv ifOf s) (e e' : R × Nat) (he : e ∈ s.installed) (he' : e' ∈ s.installed)
    (hk : e.1.key = e'.1.key) : e.1 = e'.1 :=
  ListKeys.inj_of_nodup_map h.keyN (installed_kernel h he) (installed_kernel h he') hk

theorem table_delete_by_key (s : St) (h : Inv ifOf s) (r : R) (hr : r ∈ s.installed.map (·.1)) :
    s.installed.filter (fun e => e.1.key != r.key) = s.installed.filter (fun e => e.1 != r) := by
  obtain ⟨e0, he0, rfl⟩ := List.mem_map.mp hr
  refine List.filter_congr fun e he => ?_
  by_cases hk : e.1 = e0.1
  · simp [hk]
  · rw [bne_iff_ne.mpr hk, bne_iff_ne.mpr fun x => hk (table_keys_unique s h e e0 he he0 x)]

theorem inv_init (known : Nat → Bool) : Inv ifOf (init known) := by
  constructor <;> simp [init, cnt]

theorem run_induction {P : St → Prop} (hstep : ∀ s e, P s → e.ok ifOf s → P (step s e)) :
    ∀ (evs : List Ev) (s : St), P s → Valid ifOf s evs → P (run s evs)
  | [], _, h, _ => h
  | e :: es, s, h, hv => run_induction hstep es _ (hstep s e h hv.1) hv.2

theorem reach_inv {s : St} (h : Reach ifOf s) : Inv ifOf s := by
  induction h with
  | init known => exact inv_init known
  | @step s e _ hok ih => exact inv_step s e ih hok

theorem run_inv : ∀ (evs : List Ev) (s : St), Inv ifOf s → Valid ifOf s evs → Inv ifOf (run s evs) :=
  run_induction inv_step

theorem run_reach : ∀ (evs : List Ev) (s : St), Reach ifOf s → Valid ifOf s evs → Reach ifOf (run s evs) :=
  run_induction fun _ _ h hok => Reach.step h hok

theorem valid_append : ∀ (evs evs' : List Ev) (s : St), Valid ifOf s evs → Valid ifOf (run s evs) evs' →
    Valid ifOf s (evs ++ evs')
  | [], _, _, _, h => h
  | _ :: es, evs', _, hv, h => ⟨hv.1, valid_append es evs' _ hv.2 h⟩

theorem step_env (s : St) (e : Ev) :
    (step s e).kernel = kernelStep s.kernel e ∧ (step s e).known = knownStep s.known e := by
  cases e with
  | newRoute r =>
    simp only [step, newRoute]
    split
    · exact ⟨addNeighbor_kernel _ r, addNeighbor_known _ r⟩
    · exact ⟨rfl, rfl⟩
  | delRoute r =>
    cases hn : s.neigh r.nh with
    | none => rw [step, delRoute_none s r hn]; exact ⟨rfl, rfl⟩
    | some gc => rw [step, delRoute_some s r hn]; exact ⟨rfl, rfl⟩
  | newNeigh nh =>
    exact ⟨foldl_addNeighbor (·.kernel) addNeighbor_kernel _ _, foldl_addNeighbor (·.known) addNeighbor_known _ _⟩

theorem run_env : ∀ (evs : List Ev) (s : St),
    (run s evs).kernel = evs.foldl kernelStep s.kernel ∧ (run s evs).known = evs.foldl knownStep s.known
  | [], _ => ⟨rfl, rfl⟩
  | e :: es, s => by
    have := run_env es (step s e)
    rwa [(step_env s e).1, (step_env s e).2] at this
end Route

