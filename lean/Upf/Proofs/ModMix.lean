import Upf.Proofs.History
/-!
An accepted Session Modification that creates rules, updates FARs and removes rules in one message (no Update PDR / Update QER) leaves
the world exactly as the three messages "create", "update FARs", "remove" sent one after the other would — so the history theorems
(tables = image, TEIDs, pool) cover it through `modAdd`, `modFar`, `modRem`.
-/
namespace Agent

def rAdd (r : ModReq) : ModReq := { seid := r.seid, cpFseid := r.cpFseid, createPdrs := r.createPdrs, createFars := r.createFars, createQers := r.createQers }
def rUpd (r : ModReq) : ModReq := { seid := r.seid, cpFseid := r.cpFseid, updateFars := r.updateFars }
def rRem (r : ModReq) : ModReq := { seid := r.seid, cpFseid := r.cpFseid, removePdrs := r.removePdrs, removeFars := r.removeFars, removeQers := r.removeQers }

/-- PDRs, FARs and QERs live in different tables -/
theorem sendAdd_split (cfg : Cfg) (t : Tables) (cp : List Pdr) (cf uf : List Far) (cq : List Qer) :
    sendAdd cfg (sendAdd cfg t cp cf cq) [] uf [] = sendAdd cfg t cp (cf ++ uf) cq := by
  simp only [sendAdd_eq_sendOp, sendOp_eq, farKV, List.map_append, List.foldl_append, pdrKV, appQerKV, sessQerKV]
  rfl

/-- a message and its parts carry the same CP F-SEID -/
theorem afterMod_afterMod (r r' : ModReq) (hc : r'.cpFseid = r.cpFseid) (s0 : Session) (p p' : List Pdr) (f f' : List Far) (q q' : List Qer) :
    afterMod r' (afterMod r s0 p f q) p' f' q' = afterMod r s0 p' f' q' := by
  unfold afterMod cpSeidAfter
  rw [hc]
  cases r.cpFseid <;> rfl

/-- the hypotheses under which one mixed message is three messages -/
structure MixedOk (cfg : Cfg) (w : World) (a : Nat) (r : ModReq) (s0 : Session) : Prop where
  noUpd : r.updatePdrs = [] ∧ r.updateQers = []
  find : (w.conn a).sessions.find? (·.lseid = r.seid) = some s0
  parsed : ∃ cp pool1 cf uf pdrs2 delP fars2 delF qers2 delQ,
    parsePdrs r.seid (fseidIPOf' r) (w.conn a).apps r.createPdrs w.pool = .ok (cp, pool1) ∧
    mapFars cfg r.seid (fseidIPOf' r) false r.createFars = .ok cf ∧
    mapFars cfg r.seid (fseidIPOf' r) true r.updateFars = .ok uf ∧
    markSessionQer (s0.pdrs ++ cp) (s0.qers ++ createdQers r) = (s0.qers ++ createdQers r, s0.pdrs ++ cp) ∧
    (∀ p ∈ cp, ∀ q ∈ s0.pdrs, q.pdrID ≠ p.pdrID) ∧ (cp.map (·.pdrID)).Nodup ∧
    (∀ p ∈ createdQers r, ∀ q ∈ s0.qers, q.qerID ≠ p.qerID) ∧ ((createdQers r).map (·.qerID)).Nodup ∧
    removeAll (·.pdrID) (s0.pdrs ++ cp) r.removePdrs = some (pdrs2, delP) ∧
    removeAll (·.farID) (updFars (s0.fars ++ cf) uf).1 r.removeFars = some (fars2, delF) ∧
    removeAll (·.qerID) (s0.qers ++ createdQers r) r.removeQers = some (qers2, delQ)

theorem MixedOk.world {cfg : Cfg} {w : World} {a : Nat} {r : ModReq} {s0 : Session} (hm : MixedOk cfg w a r s0) :
    (modify cfg w a r).world = [Ev.modAdd a (rAdd r), Ev.modFar a (rUpd r), Ev.modRem a (rRem r)].foldl (stepEv cfg) w := by
  obtain ⟨cp, pool1, cf, uf, pdrs2, delP, fars2, delF, qers2, delQ, hp, hf, hu, hst, h1, h2, h3, h4, hrp, hrf, hrq⟩ := hm.parsed
  have h := hm.find
  have N : NewRules r s0 cp := ⟨hst, h1, h2, h3, h4⟩
  have hl : s0.lseid = r.seid := key_of_find? h
  show _ = (modify cfg (modify cfg (modify cfg w a (rAdd r)).world a (rUpd r)).world a (rRem r)).world
  have em := modify_parsed cfg w a r s0 hm.noUpd h cp pool1 cf uf hp hf hu N
  rw [removeMod_eq_some_iff.mpr ⟨hrp, hrf, hrq⟩] at em
  have e1 := modify_addOnly_ok cfg w a (rAdd r) s0 ⟨rfl, rfl, rfl, rfl, rfl, rfl⟩ h cp pool1 cf hp hf ⟨hst, h1, h2, h3, h4⟩
  obtain ⟨f1, p1⟩ := putSession_again w _ a r.seid s0 _ h (congrArg World.conns e1) hl
  -- `hst` is the stable marking of the session the second and third part find stored: its PDRs and QERs are `s0.pdrs ++ cp` and
  -- `s0.qers ++ createdQers r` once `afterMod` is unfolded
  have e2 := modify_farOnly_ok cfg _ a (rUpd r) _ ⟨rfl, rfl, rfl, rfl, rfl, rfl, rfl, rfl⟩ f1 hst uf hu
  obtain ⟨f2, p2⟩ := putSession_again _ _ a r.seid _ _ f1 (congrArg World.conns e2) hl
  have e3 := modify_remOnly cfg _ a (rRem r) _ ⟨rfl, rfl, rfl, rfl, rfl, rfl⟩ f2 hst
  -- (the rule lists of the stored sessions are those of the single message, up to unfolding `afterMod`)
  erw [(removeMod_eq_some_iff (r := rRem r)).mpr ⟨hrp, hrf, hrq⟩] at e3
  rw [em, e3]
  dsimp only
  rw [show (rRem r).seid = r.seid from rfl, p2, p1, e2, e1]
  dsimp only
  rw [sendAdd_split, afterMod_afterMod (rUpd r) (rRem r) rfl, afterMod_afterMod (rAdd r) (rUpd r) rfl]
  rfl

/-- **every accepted modification without Update PDR / Update QER keeps all the invariants**, whenever its three parts are in the envelope -/
theorem mixed_inv (base : List Nat) (cfg : Cfg) (w : World) (a : Nat) (r : ModReq) (s0 : Session) (hm : MixedOk cfg w a r s0)
    (hI : Inv cfg w) (hW : FarWf w) (hT : TeidInv w) (hP : PoolInv base w.pool) (hO : Owned w)
    (henv : EnvOK cfg w [Ev.modAdd a (rAdd r), Ev.modFar a (rUpd r), Ev.modRem a (rRem r)]) :
    Inv cfg (modify cfg w a r).world ∧ FarWf (modify cfg w a r).world ∧ TeidInv (modify cfg w a r).world ∧
    PoolInv base (modify cfg w a r).world.pool ∧ Owned (modify cfg w a r).world := by
  rw [hm.world]
  -- (the history stays a variable: `PoolInv` of a concrete one would be unfolded down to `modify`)
  generalize [Ev.modAdd a (rAdd r), Ev.modFar a (rUpd r), Ev.modRem a (rRem r)] = evs at henv ⊢
  obtain ⟨hI', K⟩ := run_keeps cfg evs w hI hW henv
  exact ⟨hI', K.farwf hW, K.teid hT, (pool_run base cfg evs w hI hW henv hP hO).1, K.owned hO⟩

end Agent
