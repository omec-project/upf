import Upf.Model.Tab
/-! C11 and the table level of C03: keyed tables with upsert/delete (the BESS lookup modules); command streams on disjoint keys commute through any interleaving. -/

namespace Tab

variable {K V : Type} [DecidableEq K]

theorem apply_other (t : T K V) (c : Cmd K V) (x : K) (h : x ≠ c.key) : apply t c x = t x := by
  cases c <;> exact if_neg h

theorem apply_same (t t' : T K V) (c : Cmd K V) : apply t c c.key = apply t' c c.key := by
  cases c <;> exact (if_pos rfl).trans (if_pos rfl).symm

theorem commute (a b : Cmd K V) (h : a.key ≠ b.key) (t : T K V) :
    apply (apply t a) b = apply (apply t b) a := by
  funext x
  by_cases hb : x = b.key
  · subst hb
    rw [apply_other _ a _ (Ne.symm h)]
    exact apply_same _ _ b
  · rw [apply_other _ b _ hb]
    by_cases ha : x = a.key
    · subst ha; exact (apply_same _ _ a)
    · rw [apply_other _ a _ ha, apply_other _ a _ ha, apply_other _ b _ hb]

theorem run_cons (t : T K V) (c) (cs : List (Cmd K V)) : run t (c :: cs) = run (apply t c) cs := rfl

theorem run_apply_of_keys_ne (b : Cmd K V) : ∀ (xs : List (Cmd K V)) (t : T K V), (∀ a ∈ xs, a.key ≠ b.key) →
    run (apply t b) xs = apply (run t xs) b := by
  intro xs
  induction xs with
  | nil => intro t _; rfl
  | cons a as ih =>
    intro t h
    rw [run_cons, run_cons, ← commute a b (h a List.mem_cons_self) t]
    exact ih _ (fun x hx => h x (List.mem_cons_of_mem _ hx))

theorem run_append (t : T K V) (xs ys : List (Cmd K V)) : run t (xs ++ ys) = run (run t xs) ys :=
  List.foldl_append

/-- two associations' command streams on disjoint keys: every interleaving ends in the same table as
    running one stream after the other -/
theorem interleave_eq_seq : ∀ (xs ys zs : List (Cmd K V)), Interleave xs ys zs →
    (∀ a ∈ xs, ∀ b ∈ ys, a.key ≠ b.key) → ∀ t : T K V, run t zs = run (run t xs) ys := by
  intro xs ys zs hi
  induction hi with
  | nil => intro _ t; rfl
  | left hi ih =>
    intro hd t
    rw [run_cons, run_cons]
    exact ih (fun a ha b hb => hd a (List.mem_cons_of_mem _ ha) b hb) _
  | @right y xs ys zs hi ih =>
    intro hd t
    rw [run_cons, run_cons, ih (fun a ha b hb => hd a ha b (List.mem_cons_of_mem _ hb)) _]
    rw [run_apply_of_keys_ne y xs t (fun a ha => hd a ha y List.mem_cons_self)]

#print axioms interleave_eq_seq

end Tab

