import Upf.Proofs.Up4Basic
/-!
What each operation of up4.go does, one lemma per function (`…_spec`), proved by walking the function once: the part of the
bookkeeping it owns and, where it issues Writes, that it reports success only if they were good (`Eff`, `Frame`), together with what
it does to its own part; the first half alone is `…_eff` (`…_frame` where there is no Write). The loops over one operation (`configureMeters`, `resetMeters`, `updatePeers`, the fold of `removePeer`)
have an induction principle (`…_chain`) which the invariant modules instantiate.
-/
namespace Up4
open Agent


/-- the PDRs with the cells they were given -/
def assign (ps : List Pdr) (ids : List Nat) : List Pdr := List.zipWith (fun p id => { p with ctrID := id }) ps ids

theorem allocCounters_spec : ∀ (c : Ctx) (n : Nat) (done todo : List Pdr),
    Eff (some .ctr) c (allocCounters c n done todo).1 (allocCounters c n done todo).2.2 ∧
      (c.st.ctrFree.Nodup → ∃ ids : List Nat, ids.Nodup ∧ (∀ i ∈ ids, i ∈ c.st.ctrFree) ∧
        (∀ x, x ∈ (allocCounters c n done todo).1.st.ctrFree ↔ (x ∈ c.st.ctrFree ∧ x ∉ ids)) ∧
        (allocCounters c n done todo).1.st.ctrFree.Nodup ∧
        ((allocCounters c n done todo).2.2 = true →
          (allocCounters c n done todo).2.1 = done.reverse ++ assign (todo.take n) ids ++ todo.drop n ∧
          ids.length = min n todo.length))
  | c, 0, done, todo => ⟨Eff.silent, fun hnd => ⟨[], List.nodup_nil, nofun, by simp [allocCounters], hnd, fun _ => by simp [allocCounters, assign]⟩⟩
  | c, n + 1, done, [] => ⟨Eff.silent, fun hnd => ⟨[], List.nodup_nil, nofun, by simp [allocCounters], hnd, fun _ => by simp [allocCounters, assign]⟩⟩
  | c, n + 1, done, p :: todo => by
    unfold allocCounters
    cases hp : pop c c.st.ctrFree with
    | none => exact ⟨Eff.silent, fun hnd => ⟨[], List.nodup_nil, nofun, by simp, hnd, nofun⟩⟩
    | some r =>
      obtain ⟨id, free, c1⟩ := r
      obtain ⟨hin, rfl, picks, rfl⟩ := pop_spec hp
      dsimp only
      generalize hok : ((write _ _).2 == WRes.ok) = wok
      cases wok
      · -- the Write failed: the cell has left the pool (it is not handed back), the request is refused
        rw [if_neg Bool.false_ne_true]
        exact ⟨Eff.write false nofun, fun hnd => ⟨[id], by simp, by simpa using hin,
          fun x => by rw [write_ctrFree, List.mem_singleton]; exact mem_erase_iff_of_nodup hnd, by rw [write_ctrFree]; exact hnd.erase id,
          nofun⟩⟩
      · -- the counters were reset: the loop goes on with the pool less this cell
        rw [if_pos rfl]
        generalize hw : (write _ _).1 = c3
        have hc3 : c3.st.ctrFree = c.st.ctrFree.erase id := by rw [← hw, write_ctrFree]
        obtain ⟨heff, h⟩ := allocCounters_spec c3 n ({ p with ctrID := id } :: done) todo
        refine ⟨(Chain.eff _).trans (hw ▸ Eff.write true fun _ => hok) heff, fun hnd => ?_⟩
        have hmem := fun x => mem_erase_iff_of_nodup (x := id) (y := x) hnd
        obtain ⟨ids, hids, hsub, hiff, hnd', hres⟩ := h (hc3 ▸ hnd.erase id)
        rw [hc3] at hsub hiff
        refine ⟨id :: ids, List.nodup_cons.mpr ⟨fun hi => hnd.not_mem_erase (hsub id hi), hids⟩,
          List.forall_mem_cons.mpr ⟨hin, fun i hi => ((hmem i).mp (hsub i hi)).1⟩, fun x => ?_, hnd', fun hok => ?_⟩
        · rw [hiff x, hmem x, List.mem_cons, not_or, and_assoc]
        · obtain ⟨h1, h2⟩ := hres hok
          exact ⟨by rw [h1]; simp [assign], by simp only [List.length_cons, h2]; omega⟩

theorem allocCounters_eff (c : Ctx) (n : Nat) (done todo : List Pdr) :
    Eff (some .ctr) c (allocCounters c n done todo).1 (allocCounters c n done todo).2.2 :=
  (allocCounters_spec c n done todo).1

/-- `none`: failure, the cells went back where they came from. Kinds as in up4.go: 1 = meterTypeApplication, 2 = meterTypeSession. -/
def Took (kind : Nat) (free free' : List Nat) : Option Meter → Prop
  | none => (∀ x, x ∈ free' ↔ x ∈ free) ∧ free'.Nodup
  | some m => m.kind = kind ∧ m.ul ∈ free ∧ m.dl ∈ free ∧ (∀ x, x ∈ free' ↔ x ∈ free ∧ x ≠ m.ul ∧ x ≠ m.dl) ∧ free'.Nodup

namespace Took
variable {kind a b : Nat} {l : List Nat}

/-- one cell popped, for both directions -/
theorem one (hn : l.Nodup) (ha : a ∈ l) : Took kind l (l.erase a) (some ⟨kind, a, a⟩) :=
  ⟨rfl, ha, ha, fun x => by dsimp only; rw [mem_erase_iff_of_nodup hn, and_self], hn.erase a⟩

theorem two (hn : l.Nodup) (ha : a ∈ l) (hb : b ∈ l.erase a) : Took kind l ((l.erase a).erase b) (some ⟨kind, a, b⟩) :=
  ⟨rfl, ha, ((mem_erase_iff_of_nodup hn).mp hb).1, fun x => by rw [mem_erase_iff_of_nodup (hn.erase a), mem_erase_iff_of_nodup hn, and_assoc],
   (hn.erase a).erase b⟩

theorem back (hn : l.Nodup) (ha : a ∈ l) : Took kind l (setAdd (l.erase a) a) none := by
  refine ⟨fun x => ?_, nodup_setAdd (hn.erase a)⟩
  rw [mem_setAdd, mem_erase_iff_of_nodup hn]
  exact ⟨fun h => h.elim And.left (· ▸ ha), fun h => (Decidable.em (x = a)).elim Or.inr fun hx => Or.inl ⟨h, hx⟩⟩

theorem back2 (hn : l.Nodup) (ha : a ∈ l) (hb : b ∈ l.erase a) : Took kind l (setAdd (setAdd ((l.erase a).erase b) a) b) none := by
  refine ⟨fun x => ?_, nodup_setAdd (nodup_setAdd ((hn.erase a).erase b))⟩
  rw [mem_setAdd, mem_setAdd, mem_erase_iff_of_nodup (hn.erase a), mem_erase_iff_of_nodup hn]
  constructor
  · rintro ((⟨⟨h, _⟩, _⟩ | rfl) | rfl)
    · exact h
    · exact ha
    · exact ((mem_erase_iff_of_nodup hn).mp hb).1
  · intro h
    by_cases hb' : x = b
    · exact Or.inr hb'
    · by_cases ha' : x = a
      · exact Or.inl (Or.inr ha')
      · exact Or.inl (Or.inl ⟨⟨h, ha'⟩, hb'⟩)

end Took

/-- `0 ∉ c.st.sessFree`: cell 0 is reserved -/
theorem configureSessMeter_spec (c : Ctx) (q : Qer) :
    Eff (some .mtr) c (configureSessMeter c q).1 (configureSessMeter c q).2.isSome ∧
      (c.st.sessFree.Nodup → 0 ∉ c.st.sessFree →
        (configureSessMeter c q).1.st.appFree = c.st.appFree ∧ (configureSessMeter c q).1.st.meters = c.st.meters ∧
        Took 2 c.st.sessFree (configureSessMeter c q).1.st.sessFree (configureSessMeter c q).2) := by
  unfold configureSessMeter
  cases h1 : pop c c.st.sessFree with
  | none => exact ⟨Eff.silent, fun hn _ => ⟨rfl, rfl, fun _ => Iff.rfl, hn⟩⟩
  | some r1 =>
    obtain ⟨ul, free, c1⟩ := r1
    obtain ⟨hul, rfl, ps1, rfl⟩ := pop_spec h1
    have hul0 : 0 ∉ c.st.sessFree → ul ≠ 0 := fun h0 e => h0 (e ▸ hul)
    dsimp only
    cases h2 : pop _ (c.st.sessFree.erase ul) with
    | none =>
      exact ⟨Eff.silent, fun hn h0 => ⟨rfl, rfl, by dsimp only; rw [if_pos (hul0 h0)]; exact .back hn hul⟩⟩
    | some r2 =>
      obtain ⟨dl, free2, c2⟩ := r2
      obtain ⟨hdl, rfl, ps2, rfl⟩ := pop_spec h2
      have hdl0 : 0 ∉ c.st.sessFree → dl ≠ 0 := fun h0 e => h0 (e ▸ List.mem_of_mem_erase hdl)
      dsimp only
      generalize hok : ((write _ _).2 == WRes.ok) = ok
      cases ok
      · rw [if_neg Bool.false_ne_true]
        exact ⟨(Eff.write false nofun).set _, fun hn h0 =>
          ⟨write_appFree .., write_meters .., by
            dsimp only; rw [write_sessFree, if_pos (hul0 h0), if_pos (hdl0 h0)]; exact .back2 hn hul hdl⟩⟩
      · rw [if_pos rfl]
        exact ⟨Eff.write true fun _ => hok, fun hn _ =>
          ⟨write_appFree .., write_meters .., (write_sessFree ..).symm ▸ .two hn hul hdl⟩⟩

/-- one cell for both directions unless `bidir` -/
theorem configureAppMeter_spec (c : Ctx) (q : Qer) (bidir : Bool) :
    Eff (some .mtr) c (configureAppMeter c q bidir).1 (configureAppMeter c q bidir).2.isSome ∧
      (c.st.appFree.Nodup → 0 ∉ c.st.appFree →
        (configureAppMeter c q bidir).1.st.sessFree = c.st.sessFree ∧ (configureAppMeter c q bidir).1.st.meters = c.st.meters ∧
        Took 1 c.st.appFree (configureAppMeter c q bidir).1.st.appFree (configureAppMeter c q bidir).2) := by
  unfold configureAppMeter
  cases h1 : pop c c.st.appFree with
  | none => exact ⟨Eff.silent, fun hn _ => ⟨rfl, rfl, fun _ => Iff.rfl, hn⟩⟩
  | some r1 =>
    obtain ⟨ul, free, c1⟩ := r1
    obtain ⟨hul, rfl, ps1, rfl⟩ := pop_spec h1
    have hul0 : 0 ∉ c.st.appFree → ul ≠ 0 := fun h0 e => h0 (e ▸ hul)
    dsimp only
    cases bidir with
    | false =>
      rw [if_neg Bool.false_ne_true]
      dsimp only
      generalize (_ ++ _ : List Upd) = ups
      generalize hok : ((write _ ups).2 == WRes.ok) = ok
      cases ok
      · rw [if_neg Bool.false_ne_true]
        exact ⟨(Eff.write false nofun).set _, fun hn h0 =>
          ⟨write_sessFree .., write_meters .., by
            dsimp only
            rw [write_appFree, if_pos (hul0 h0), if_neg (show ¬(ul ≠ ul ∧ ul ≠ 0) from fun h => h.1 rfl)]
            exact .back hn hul⟩⟩
      · rw [if_pos rfl]
        exact ⟨Eff.write true fun _ => hok, fun hn _ =>
          ⟨write_sessFree .., write_meters .., (write_appFree ..).symm ▸ .one hn hul⟩⟩
    | true =>
      rw [if_pos rfl]
      cases h2 : pop _ (c.st.appFree.erase ul) with
      | none => exact ⟨Eff.silent, fun hn _ => ⟨rfl, rfl, .back hn hul⟩⟩
      | some r2 =>
        obtain ⟨dl, free2, c2⟩ := r2
        obtain ⟨hdl, rfl, ps2, rfl⟩ := pop_spec h2
        have hdl0 : 0 ∉ c.st.appFree → dl ≠ 0 := fun h0 e => h0 (e ▸ List.mem_of_mem_erase hdl)
        dsimp only
        generalize (_ ++ _ : List Upd) = ups
        generalize hok : ((write _ ups).2 == WRes.ok) = ok
        cases ok
        · rw [if_neg Bool.false_ne_true]
          exact ⟨(Eff.write false nofun).set _, fun hn h0 =>
            ⟨write_sessFree .., write_meters .., by
              dsimp only
              rw [write_appFree, if_pos (hul0 h0),
                if_pos (show dl ≠ ul ∧ dl ≠ 0 from ⟨((mem_erase_iff_of_nodup hn).mp hdl).2, hdl0 h0⟩)]
              exact .back2 hn hul hdl⟩⟩
        · rw [if_pos rfl]
          exact ⟨Eff.write true fun _ => hok, fun hn _ =>
            ⟨write_sessFree .., write_meters .., (write_appFree ..).symm ▸ .two hn hul hdl⟩⟩

theorem configureMeters_chain {R : Ctx → Ctx → Bool → Prop} (hR : Chain R) (n : Nat)
    (step : ∀ c q c1 r, (if q.session then configureSessMeter c q else configureAppMeter c q (n == 1)) = (c1, r) →
      match r with
      | none => R c c1 false
      | some m => R c { c1 with st := { c1.st with meters := mapPut c1.st.meters (q.qerID, q.fseID) m } } true) :
    ∀ (c : Ctx) (qs : List Qer), R c (configureMeters n c qs).1 (configureMeters n c qs).2
  | c, [] => hR.refl c
  | c, q :: rest => by
    unfold configureMeters
    have h := step c q
    generalize (if q.session then configureSessMeter c q else configureAppMeter c q (n == 1)) = x at h ⊢
    obtain ⟨c1, r⟩ := x
    have h := h c1 r rfl
    cases r with
    | none => exact h
    | some m => exact hR.trans h (configureMeters_chain hR n step _ rest)

theorem configureMeters_eff (n : Nat) (c : Ctx) (qs : List Qer) :
    Eff (some .mtr) c (configureMeters n c qs).1 (configureMeters n c qs).2 := by
  refine configureMeters_chain (Chain.eff _) n (fun c q c1 r e => ?_) c qs
  have h : Eff (some .mtr) c c1 r.isSome := by
    by_cases hs : q.session = true
    · rw [if_pos hs] at e; have h := (configureSessMeter_spec c q).1; rwa [e] at h
    · rw [if_neg hs] at e; have h := (configureAppMeter_spec c q (n == 1)).1; rwa [e] at h
  cases r with
  | none => exact h
  | some m => exact h.set _

theorem resetMeters_cons (c : Ctx) (q : Qer) (rest : List Qer) :
    resetMeters c (q :: rest) = resetMeters (resetMeters c [q]) rest := by
  rw [resetMeters.eq_2, resetMeters.eq_2]
  cases mapGet c.st.meters (q.qerID, q.fseID) with
  | none => rfl
  | some m => exact (apply_ite (resetMeters · rest) _ _ _).symm

theorem resetMeters_chain {R : Ctx → Ctx → Bool → Prop} (hR : Chain R) (step : ∀ c q, R c (resetMeters c [q]) true) :
    ∀ (c : Ctx) (qs : List Qer), R c (resetMeters c qs) true
  | c, [] => hR.refl c
  | c, q :: rest => by rw [resetMeters_cons]; exact hR.trans (step c q) (resetMeters_chain hR step _ rest)

theorem resetMeters_frame (c : Ctx) (qs : List Qer) : Frame (some .mtr) c.st (resetMeters c qs).st := by
  refine resetMeters_chain (Chain.frame _) (fun c q => ?_) c qs
  unfold resetMeters
  cases mapGet c.st.meters (q.qerID, q.fseID) with
  | none => rfl
  | some m =>
    dsimp only
    generalize (_ ++ _ : List Upd) = ups
    by_cases hk : m.kind = 1 ∨ m.kind = 2
    · rw [if_pos hk]; exact (write_frame c ups _).trans (by split <;> rfl)
    · rw [if_neg hk]; rfl

/-- third case: an ID is taken and, if the entry cannot be built or written, lost -/
theorem addOrUpdatePeer_spec (cfg : Cfg4) (c : Ctx) (f : Far) :
    Eff (some .pp) c (addOrUpdatePeer cfg c f).1 (addOrUpdatePeer cfg c f).2 ∧
      ((∃ pr, mapGet c.st.peers (tpOf cfg f) = some pr ∧ (addOrUpdatePeer cfg c f).1.st.peerPool = c.st.peerPool ∧
          (addOrUpdatePeer cfg c f).1.st.peers =
            mapPut c.st.peers (tpOf cfg f) { pr with usedBy := pairAdd pr.usedBy (f.fseID, f.farID) }) ∨
       (mapGet c.st.peers (tpOf cfg f) = none ∧ (addOrUpdatePeer cfg c f).2 = false ∧
          (addOrUpdatePeer cfg c f).1.st.peerPool = c.st.peerPool ∧ (addOrUpdatePeer cfg c f).1.st.peers = c.st.peers) ∨
       ∃ id, mapGet c.st.peers (tpOf cfg f) = none ∧ c.st.peerPool = id :: (addOrUpdatePeer cfg c f).1.st.peerPool ∧
         (((addOrUpdatePeer cfg c f).2 = false ∧ (addOrUpdatePeer cfg c f).1.st.peers = c.st.peers) ∨
          (addOrUpdatePeer cfg c f).1.st.peers = mapPut c.st.peers (tpOf cfg f) { id := id, usedBy := [(f.fseID, f.farID)] })) := by
  unfold addOrUpdatePeer
  dsimp only
  cases hm : mapGet c.st.peers (tpOf cfg f) with
  | some pr =>
    dsimp only
    cases buildPeer pr.id (tpOf cfg f) with
    | none => exact ⟨Eff.silent, Or.inl ⟨pr, rfl, rfl, rfl⟩⟩
    | some e => exact ⟨Eff.write _ id, Or.inl ⟨pr, rfl, write_peerPool .., write_peers ..⟩⟩
  | none =>
    dsimp only
    cases hp : c.st.peerPool with
    | nil => exact ⟨Eff.silent, Or.inr (Or.inl ⟨rfl, rfl, hp, rfl⟩)⟩
    | cons id pool =>
      dsimp only
      cases buildPeer id (tpOf cfg f) with
      | none => exact ⟨Eff.silent, Or.inr (Or.inr ⟨id, rfl, rfl, Or.inl ⟨rfl, rfl⟩⟩)⟩
      | some e =>
        dsimp only
        generalize hok : ((write _ _).2 == WRes.ok) = ok
        cases ok
        · rw [if_neg Bool.false_ne_true]
          exact ⟨Eff.write false nofun, Or.inr (Or.inr ⟨id, rfl, by rw [write_peerPool], Or.inl ⟨rfl, write_peers ..⟩⟩)⟩
        · rw [if_pos rfl]
          exact ⟨(Eff.write true fun _ => hok).set _,
            Or.inr (Or.inr ⟨id, rfl, by rw [write_peerPool], Or.inr (by rw [write_peers])⟩)⟩

theorem addOrUpdatePeer_eff (cfg : Cfg4) (c : Ctx) (f : Far) :
    Eff (some .pp) c (addOrUpdatePeer cfg c f).1 (addOrUpdatePeer cfg c f).2 :=
  (addOrUpdatePeer_spec cfg c f).1

theorem updatePeers_chain {R : Ctx → Ctx → Bool → Prop} (hR : Chain R) (cfg : Cfg4)
    (step : ∀ c f, R c (addOrUpdatePeer cfg c f).1 (addOrUpdatePeer cfg c f).2) :
    ∀ (c : Ctx) (fs : List Far), R c (updatePeers cfg c fs).1 (updatePeers cfg c fs).2
  | c, [] => by simpa [updatePeers] using hR.refl c
  | c, f :: rest => by
    unfold updatePeers
    by_cases hc : f.dstIntf = 0 ∧ f.tunnelTEID ≠ 0
    · rw [if_pos hc]
      have h := step c f
      generalize addOrUpdatePeer cfg c f = r at h ⊢
      obtain ⟨c1, b⟩ := r
      cases b
      · exact h
      · exact hR.trans h (updatePeers_chain hR cfg step c1 rest)
    · rw [if_neg hc]; exact updatePeers_chain hR cfg step c rest

theorem updatePeers_eff (cfg : Cfg4) (c : Ctx) (fs : List Far) : Eff (some .pp) c (updatePeers cfg c fs).1 (updatePeers cfg c fs).2 :=
  updatePeers_chain (Chain.eff _) cfg (addOrUpdatePeer_eff cfg) c fs

theorem removePeer_spec (cfg : Cfg4) (c : Ctx) (f : Far) :
    Frame (some .pp) c.st (removePeer cfg c f).st ∧
      ((mapGet c.st.peers (tpOf cfg f) = none ∧ (removePeer cfg c f).st.peerPool = c.st.peerPool ∧ (removePeer cfg c f).st.peers = c.st.peers) ∨
       ∃ pr, mapGet c.st.peers (tpOf cfg f) = some pr ∧
         (((pr.usedBy.filter (· != (f.fseID, f.farID)) ≠ [] ∨ buildPeer pr.id (tpOf cfg f) = none) ∧
            (removePeer cfg c f).st.peerPool = c.st.peerPool ∧ (removePeer cfg c f).log = c.log ∧
            (removePeer cfg c f).st.peers = mapPut c.st.peers (tpOf cfg f) { pr with usedBy := pr.usedBy.filter (· != (f.fseID, f.farID)) }) ∨
          (pr.usedBy.filter (· != (f.fseID, f.farID)) = [] ∧ (removePeer cfg c f).st.peerPool = c.st.peerPool ++ [pr.id] ∧
            (∃ e, buildPeer pr.id (tpOf cfg f) = some e ∧ ∃ r, (removePeer cfg c f).log = c.log ++ [r] ∧ r.ups = [⟨.delete, .tbl e⟩]) ∧
            (removePeer cfg c f).st.peers = mapDel (mapPut c.st.peers (tpOf cfg f)
              { pr with usedBy := pr.usedBy.filter (· != (f.fseID, f.farID)) }) (tpOf cfg f)))) := by
  unfold removePeer
  dsimp only
  cases mapGet c.st.peers (tpOf cfg f) with
  | none => exact ⟨rfl, Or.inl ⟨rfl, rfl, rfl⟩⟩
  | some pr =>
    dsimp only
    by_cases hu : pr.usedBy.filter (· != (f.fseID, f.farID)) ≠ []
    · rw [if_pos hu]; exact ⟨rfl, Or.inr ⟨pr, rfl, Or.inl ⟨Or.inl hu, rfl, rfl, rfl⟩⟩⟩
    · rw [if_neg hu]
      cases hb : buildPeer pr.id (tpOf cfg f) with
      | none => exact ⟨rfl, Or.inr ⟨pr, rfl, Or.inl ⟨Or.inr hb, rfl, rfl, rfl⟩⟩⟩
      | some e =>
        exact ⟨Frame.write _ _, Or.inr ⟨pr, rfl, Or.inr ⟨Decidable.not_not.mp hu,
          by dsimp only; rw [write_peerPool], ⟨e, hb, write_log _ _⟩, by dsimp only; rw [write_peers]⟩⟩⟩

theorem removePeer_frame (cfg : Cfg4) (c : Ctx) (f : Far) : Frame (some .pp) c.st (removePeer cfg c f).st :=
  (removePeer_spec cfg c f).1

theorem removePeers_chain {R : Ctx → Ctx → Bool → Prop} (hR : Chain R) (cfg : Cfg4) (step : ∀ c f, R c (removePeer cfg c f) true) :
    ∀ (c : Ctx) (fs : List Far), R c (fs.foldl (removePeer cfg) c) true
  | c, [] => hR.refl c
  | c, f :: rest => hR.trans (step c f) (removePeers_chain hR cfg step _ rest)

/-- last case: an ID is taken and, if the entry cannot be built, lost -/
theorem addApp_spec (cfg : Cfg4) (st : St) (p : Pdr) :
    Frame (some .ap) st (addApp cfg st p).1 ∧
      ((∃ ap, mapGet st.apps (afOf p) = some ap ∧ (addApp cfg st p).1.appPool = st.appPool ∧
          (addApp cfg st p).1.apps = mapPut st.apps (afOf p) { ap with usedBy := pairAdd ap.usedBy (p.fseID, p.pdrID) }) ∨
       ((addApp cfg st p).1.appPool = st.appPool ∧ (addApp cfg st p).1.apps = st.apps) ∨
       ∃ id, st.appPool = id :: (addApp cfg st p).1.appPool ∧ ((addApp cfg st p).1.apps = st.apps ∨
         ∃ e, (addApp cfg st p).1.apps = mapPut st.apps (afOf p) { id := id, usedBy := [(p.fseID, p.pdrID)], entry := some e })) := by
  unfold addApp
  dsimp only
  cases mapGet st.apps (afOf p) with
  | some ap => exact ⟨rfl, Or.inl ⟨ap, rfl, rfl, rfl⟩⟩
  | none =>
    dsimp only
    cases hp : st.appPool with
    | nil => exact ⟨rfl, Or.inr (Or.inl ⟨hp, rfl⟩)⟩
    | cons id pool =>
      dsimp only
      cases buildApplication p cfg.sliceID id with
      | none => exact ⟨rfl, Or.inr (Or.inr ⟨id, rfl, Or.inl rfl⟩)⟩
      | some e => exact ⟨rfl, Or.inr (Or.inr ⟨id, rfl, Or.inr ⟨e, rfl⟩⟩)⟩

theorem removeApp_spec (cfg : Cfg4) (st : St) (p : Pdr) :
    Frame (some .ap) st (removeApp cfg st p).1 ∧
      (((removeApp cfg st p).1.appPool = st.appPool ∧ (removeApp cfg st p).1.apps = st.apps) ∨
       ∃ ap, mapGet st.apps (afOf p) = some ap ∧
         (((removeApp cfg st p).1.appPool = st.appPool ∧
            (removeApp cfg st p).1.apps = mapPut st.apps (afOf p) { ap with usedBy := ap.usedBy.filter (· != (p.fseID, p.pdrID)) }) ∨
          ((removeApp cfg st p).1.appPool = st.appPool ++ [ap.id] ∧ (removeApp cfg st p).1.apps = mapDel (mapPut st.apps (afOf p)
            { ap with usedBy := ap.usedBy.filter (· != (p.fseID, p.pdrID)) }) (afOf p)))) := by
  unfold removeApp
  dsimp only
  cases mapGet st.apps (afOf p) with
  | none => exact ⟨rfl, Or.inl ⟨rfl, rfl⟩⟩
  | some ap =>
    obtain ⟨aid, used, entry⟩ := ap
    dsimp only
    split
    · exact ⟨rfl, Or.inr ⟨_, rfl, Or.inl ⟨rfl, rfl⟩⟩⟩
    · cases entry with
      | none => exact ⟨rfl, Or.inr ⟨_, rfl, Or.inl ⟨rfl, rfl⟩⟩⟩
      | some e => exact ⟨rfl, Or.inr ⟨_, rfl, Or.inr ⟨rfl, rfl⟩⟩⟩

theorem addApp_frame (cfg : Cfg4) (st : St) (p : Pdr) : Frame (some .ap) st (addApp cfg st p).1 :=
  (addApp_spec cfg st p).1

theorem removeApp_frame (cfg : Cfg4) (st : St) (p : Pdr) : Frame (some .ap) st (removeApp cfg st p).1 :=
  (removeApp_spec cfg st p).1

end Up4
