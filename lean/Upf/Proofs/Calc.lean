import Upf.Model.Calc
/-! C19: hand model of `calculateBitRates` (pfcpiface/web_service.go), tied to the regenerated function in `Props/C19`; exact whenever the product fits in 63 bits. -/

namespace Calc

theorem slt_pos (v : U64) (h1 : 0 < v.toNat) (h2 : v.toNat < 2^63) : BitVec.slt 0#64 v = true := by
  rw [BitVec.slt, BitVec.toInt_eq_toNat_of_lt (x := v) (by omega), BitVec.toInt_zero]
  exact decide_eq_true (Int.ofNat_lt.mpr h1)

theorem mul_fit (mbr : U64) (k : Nat) (hk : k < 2^64) (hfit : mbr.toNat * k < 2^63) :
    (mbr * BitVec.ofNat 64 k).toNat = mbr.toNat * k := by
  rw [BitVec.toNat_mul, BitVec.toNat_ofNat, Nat.mod_eq_of_lt hk, Nat.mod_eq_of_lt (by omega)]

theorem scaled_exact (mbr : U64) (k : Nat) (hk : k < 2^64) (hpos : 0 < mbr.toNat * k) (hfit : mbr.toNat * k < 2^63) :
    (let val : U64 := mbr * BitVec.ofNat 64 k
     if BitVec.slt 0#64 val then val else 0x7FFFFFFFFFFFFFFF#64).toNat = mbr.toNat * k := by
  have e := mul_fit mbr k hk hfit
  simp only [slt_pos _ (e ▸ hpos) (e ▸ hfit), if_true, e]

theorem calc_exact (mbr : U64) (u : Unit_) (h0 : mbr ≠ 0#64)
    (hfit : mbr.toNat * u.factor < 2^63) : (bitRates mbr u).toNat = mbr.toNat * u.factor := by
  have hm : 0 < mbr.toNat := Nat.pos_of_ne_zero fun h => h0 (BitVec.eq_of_toNat_eq h)
  cases u
  · exact (Nat.mul_one _).symm
  all_goals exact scaled_exact mbr _ (by decide) (Nat.mul_pos hm (by decide)) hfit

#print axioms calc_exact

end Calc
