import Upf.Model.Ref
import Upf.Proofs.Tab
/-! C03, table level on a reduced model (FAR table only): the commands of an establishment / a deletion turn the image of the store into the image of the new store. -/

namespace Ref

open Tab

theorem farVal_cons (f : Far) (fs : List Far) (fid : Nat) :
    farVal (f :: fs) fid = if f.id = fid then some f.val else farVal fs fid := by
  by_cases h : f.id = fid <;> simp [farVal, h]

theorem farVal_none_of_not_mem (fs : List Far) (fid : Nat) (h : fid ∉ fs.map (·.id)) : farVal fs fid = none := by
  rw [farVal, Option.map_eq_none_iff, List.find?_eq_none]
  exact fun x hx hc => h (List.mem_map.mpr ⟨x, hx, beq_iff_eq.mp hc⟩)

theorem image_cons (s : Sess) (store : List Sess) (k : Key) :
    image (s :: store) k = if s.seid = k.2 then farVal s.fars k.1 else image store k := by
  by_cases h : s.seid = k.2 <;> simp [image, h]

theorem find_fresh (store : List Sess) (seid : Nat) (h : ∀ s ∈ store, s.seid ≠ seid) :
    store.find? (fun s => s.seid == seid) = none :=
  List.find?_eq_none.mpr fun x hx hc => h x hx (beq_iff_eq.mp hc)

theorem image_fresh (store : List Sess) (k : Key) (h : ∀ s ∈ store, s.seid ≠ k.2) : image store k = none := by
  rw [image, find_fresh store k.2 h]

theorem run_add (seid : Nat) : ∀ (fars : List Far) (t : T Key Nat), (fars.map (·.id)).Nodup →
    ∀ (fid sd : Nat), run t (addCmds seid fars) (fid, sd) =
      if sd = seid then (farVal fars fid).orElse (fun _ => t (fid, sd)) else t (fid, sd) := by
  intro fars
  induction fars with
  | nil => intro t _ fid sd; simp [addCmds, run, farVal]
  | cons f fs ih =>
    intro t hnd fid sd
    rw [List.map_cons, List.nodup_cons] at hnd
    rw [addCmds, List.map_cons, run_cons, ← addCmds, ih _ hnd.2, farVal_cons]
    simp only [apply, Prod.mk.injEq]
    by_cases hs : sd = seid
    · by_cases hf : f.id = fid
      · -- later commands do not touch `f.id`, so the value written first stays
        subst hf
        simp [hs, farVal_none_of_not_mem fs f.id hnd.1]
      · simp [hs, hf, Ne.symm hf]
    · simp [hs]

theorem est_refines (store : List Sess) (seid : Nat) (fars : List Far)
    (hfresh : ∀ s ∈ store, s.seid ≠ seid) (hnd : (fars.map (·.id)).Nodup) :
    run (image store) (addCmds seid fars) = image (⟨seid, fars⟩ :: store) := by
  funext ⟨fid, sd⟩
  rw [run_add seid fars _ hnd fid sd, image_cons]
  by_cases hs : sd = seid
  · subst hs
    simp [image_fresh store (fid, sd) hfresh]
  · simp [hs, Ne.symm hs]

theorem run_del (seid : Nat) : ∀ (fars : List Far) (t : T Key Nat) (fid sd : Nat),
    run t (delCmds seid fars) (fid, sd) =
      if sd = seid ∧ fid ∈ fars.map (·.id) then none else t (fid, sd) := by
  intro fars
  induction fars with
  | nil => intro t fid sd; simp [delCmds, run]
  | cons f fs ih =>
    intro t fid sd
    rw [delCmds, List.map_cons, run_cons, ← delCmds, ih]
    simp only [apply, Prod.mk.injEq, List.map_cons, List.mem_cons]
    by_cases hs : sd = seid <;> by_cases hf : fid = f.id <;> simp [hs, hf]

theorem del_refines (store : List Sess) (s : Sess) (hfresh : ∀ x ∈ store, x.seid ≠ s.seid) :
    run (image (s :: store)) (delCmds s.seid s.fars) = image store := by
  funext ⟨fid, sd⟩
  rw [run_del, image_cons]
  by_cases hs : sd = s.seid
  · subst hs
    rw [image_fresh store (fid, s.seid) hfresh]
    by_cases hm : fid ∈ s.fars.map (·.id)
    · simp [hm]
    · simp [hm, farVal_none_of_not_mem s.fars fid hm]
  · simp [hs, Ne.symm hs]

#print axioms est_refines
#print axioms del_refines

end Ref
