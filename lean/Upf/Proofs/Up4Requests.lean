import Upf.Proofs.Up4Ops
/-!
The per-PDR step and the three requests of up4.go as sequences of the operations of `Up4Ops`: for each request one equation for
the stages it runs and where it stops (`…_eq`), from which come its induction principle (`…_chain`) and what an accepted
`sendCreate` / `sendUpdate` went through (`…_accepted`).
-/
namespace Up4
open Agent

/-- stated for any `P`: `prepare` touches the state only through `addApp` (INSERT, MODIFY) or `removeApp` (DELETE) -/
theorem prepare_keeps (P : St → Prop) (cfg : Cfg4) (fars : List Far) (qers : List Qer) (op : Op) (st : St) (p : Pdr) (h0 : P st)
    (hadd : ∀ p', P (addApp cfg st p').1) (hrem : ∀ p', P (removeApp cfg st p').1) : P (prepare cfg fars qers op st p).1 := by
  have happ : ∀ p', P (appStep cfg op st p').1 := fun p' => by
    unfold appStep
    split
    · exact h0
    · split
      · have := hadd p'
        generalize addApp cfg st p' = r at this
        obtain ⟨s1, _ | _⟩ := r <;> exact this
      · exact hrem p'
  unfold prepare
  by_cases h1 : p.precedence > 65535 ∨ (p.precedence = 65535 ∧ (!appFilterEmpty p) = true)
  · rw [if_pos h1]; exact h0
  rw [if_neg h1]
  cases fars.find? (·.farID = p.farID) with
  | none => exact h0
  | some far =>
    dsimp only
    by_cases h2 : (mapGet st.peers (tpOf cfg far)).isNone = true ∧ far.dstIntf = 0 ∧ far.tunnelTEID ≠ 0
    · rw [if_pos h2]; exact h0
    rw [if_neg h2]
    generalize buildSessions _ _ _ _ = bs
    cases bs with
    | none => exact h0
    | some se =>
      dsimp only
      generalize (if p.srcIface = Sdf.access then mapGet st.f2ue p.fseID else some p.ueAddress) = ue
      cases ue with
      | none => exact h0
      | some ueAddr =>
        dsimp only
        generalize buildTerminations _ _ _ _ _ _ _ = bt
        cases bt <;> exact happ _

/-- `prepare` builds entries only past its guard on the tunnel peer of the PDR's FAR -/
theorem prepare_some_far (cfg : Cfg4) (fars : List Far) (qers : List Qer) (op : Op) (st : St) (p : Pdr)
    (h : (prepare cfg fars qers op st p).2 ≠ none) : ∃ far, fars.find? (·.farID = p.farID) = some far ∧
      ¬((mapGet st.peers (tpOf cfg far)).isNone = true ∧ far.dstIntf = 0 ∧ far.tunnelTEID ≠ 0) := by
  unfold prepare at h
  by_cases h1 : p.precedence > 65535 ∨ (p.precedence = 65535 ∧ (!appFilterEmpty p) = true)
  · rw [if_pos h1] at h; exact absurd rfl h
  rw [if_neg h1] at h
  cases hf : fars.find? (·.farID = p.farID) with
  | none => rw [hf] at h; exact absurd rfl h
  | some far =>
    rw [hf] at h
    dsimp only at h
    by_cases h2 : (mapGet st.peers (tpOf cfg far)).isNone = true ∧ far.dstIntf = 0 ∧ far.tunnelTEID ≠ 0
    · rw [if_pos h2] at h; exact absurd rfl h
    · exact ⟨far, rfl, h2⟩

theorem modifyFwd_chain {R : Ctx → Ctx → Bool → Prop} (hR : Chain R) (cfg : Cfg4) (fars : List Far) (qers : List Qer) (op : Op)
    (prep : ∀ c p, R c { c with st := (prepare cfg fars qers op c.st p).1 } true)
    (wr : ∀ c ups, R c (write c ups).1 (tolerated op (write c ups).2)) :
    ∀ (c : Ctx) (ps : List Pdr), R c (modifyFwd cfg fars qers op c ps).1 (modifyFwd cfg fars qers op c ps).2
  | c, [] => by simpa [modifyFwd] using hR.refl c
  | c, p :: rest => by
    unfold modifyFwd
    have h := prep c p
    generalize prepare cfg fars qers op c.st p = r at h ⊢
    obtain ⟨st, oe⟩ := r
    cases oe with
    | none => exact hR.weaken h
    | some entries =>
      dsimp only at h ⊢
      have hw := hR.trans h (wr { c with st := st } (entries.map fun e => ⟨op, .tbl e⟩))
      cases ht : tolerated op (write { c with st := st } (entries.map fun e => ⟨op, .tbl e⟩)).2 with
      | false => rw [ht] at hw; exact hw
      | true => rw [ht] at hw; exact hR.trans hw (modifyFwd_chain hR cfg fars qers op prep wr _ rest)

theorem modifyFwd_frame (cfg : Cfg4) (fars : List Far) (qers : List Qer) (op : Op) (c : Ctx) (ps : List Pdr) :
    Frame (some .ap) c.st (modifyFwd cfg fars qers op c ps).1.st :=
  modifyFwd_chain (Chain.frame _) cfg fars qers op (fun c p => prepare_keeps (Frame _ c.st) cfg fars qers op c.st p rfl (addApp_frame cfg c.st) (removeApp_frame cfg c.st))
    (fun c ups => write_frame c ups _) c ps

theorem modifyFwd_ext (cfg : Cfg4) (fars : List Far) (qers : List Qer) (op : Op) (hop : op ≠ .delete) (c : Ctx) (ps : List Pdr) :
    Ext c (modifyFwd cfg fars qers op c ps).1 (modifyFwd cfg fars qers op c ps).2 :=
  modifyFwd_chain Chain.ext cfg fars qers op (fun c _ => ext_st c _ true) (fun c ups => write_ext_tolerated c ups op hop) c ps

theorem Frame.foldl {α : Type} {g : Option Part} (f : St → α → St) (h : ∀ s a, Frame g s (f s a)) :
    ∀ (s : St) (l : List α), Frame g s (l.foldl f s)
  | _, [] => rfl
  | s, a :: l => (h s a).trans (Frame.foldl f h (f s a) l)

theorem updateMaps_frame (st : St) (ps : List Pdr) : Frame none st (updateMaps st ps) :=
  Frame.foldl _ (fun s p => by split <;> rfl) st ps

theorem removeMaps_frame (st : St) (ps : List Pdr) : Frame none st (removeMaps st ps) :=
  Frame.foldl _ (fun s p => by split <;> rfl) st ps

theorem sendCreate_eq (cfg : Cfg4) (c : Ctx) (all updated : Rules) : sendCreate cfg c all updated =
    let r1 := allocCounters c updated.pdrs.length [] all.pdrs
    let r2 := configureMeters updated.qers.length { r1.1 with st := updateMaps r1.1.st updated.pdrs } updated.qers
    let r3 := updatePeers cfg r2.1 updated.fars
    let r4 := modifyFwd cfg all.fars all.qers .insert r3.1 r1.2.1
    if !r1.2.2 then (r1.1, r1.2.1, false) else if !r2.2 then (r2.1, r1.2.1, false)
    else if !r3.2 then (r3.1, r1.2.1, false) else (r4.1, r1.2.1, r4.2) := rfl

/-- `c0` is where the relation starts: `c` for every caller but `sendCreate_ctrFree`, which starts after the counter loop because only
the later stages keep the counter pool -/
theorem sendCreate_chain {R : Ctx → Ctx → Bool → Prop} (hR : Chain R) (cfg : Cfg4) (c0 c : Ctx) (all updated : Rules)
    (alloc : R c0 (allocCounters c updated.pdrs.length [] all.pdrs).1 (allocCounters c updated.pdrs.length [] all.pdrs).2.2)
    (maps : ∀ c, R c { c with st := updateMaps c.st updated.pdrs } true)
    (meters : ∀ c, R c (configureMeters updated.qers.length c updated.qers).1 (configureMeters updated.qers.length c updated.qers).2)
    (peers : ∀ c, R c (updatePeers cfg c updated.fars).1 (updatePeers cfg c updated.fars).2)
    (fwd : ∀ c ps, R c (modifyFwd cfg all.fars all.qers .insert c ps).1 (modifyFwd cfg all.fars all.qers .insert c ps).2) :
    R c0 (sendCreate cfg c all updated).1 (sendCreate cfg c all updated).2.2 := by
  rw [sendCreate_eq]
  dsimp only
  generalize allocCounters _ _ _ _ = r1 at alloc ⊢
  obtain ⟨c1, pdrs, ok1⟩ := r1
  cases ok1
  · exact alloc
  have h2 := hR.trans (hR.trans alloc (maps _)) (meters _)
  generalize configureMeters _ _ _ = r2 at h2 ⊢
  obtain ⟨c2, ok2⟩ := r2
  cases ok2
  · exact h2
  have h3 := hR.trans h2 (peers _)
  generalize updatePeers _ _ _ = r3 at h3 ⊢
  obtain ⟨c3, ok3⟩ := r3
  cases ok3
  · exact h3
  · exact hR.trans h3 (fwd _ _)

theorem sendCreate_accepted (cfg : Cfg4) (c : Ctx) (all updated : Rules) (ok : (sendCreate cfg c all updated).2.2 = true) :
    ∃ c1 c2 c3 pdrs, allocCounters c updated.pdrs.length [] all.pdrs = (c1, pdrs, true) ∧
      configureMeters updated.qers.length { c1 with st := updateMaps c1.st updated.pdrs } updated.qers = (c2, true) ∧
      updatePeers cfg c2 updated.fars = (c3, true) ∧
      sendCreate cfg c all updated = ((modifyFwd cfg all.fars all.qers .insert c3 pdrs).1, pdrs, true) := by
  rw [sendCreate_eq] at ok ⊢
  dsimp only at ok ⊢
  generalize allocCounters _ _ _ _ = r1 at ok ⊢
  obtain ⟨c1, pdrs, ok1⟩ := r1
  generalize h2 : configureMeters _ _ _ = r2 at ok ⊢
  obtain ⟨c2, ok2⟩ := r2
  generalize h3 : updatePeers _ _ _ = r3 at ok ⊢
  obtain ⟨c3, ok3⟩ := r3
  cases ok1 <;> cases ok2 <;> cases ok3 <;> first | cases ok | exact ⟨c1, c2, c3, pdrs, rfl, h2, h3, congrArg (_, pdrs, ·) ok⟩

theorem sendUpdate_eq (cfg : Cfg4) (c : Ctx) (all updated : Rules) : sendUpdate cfg c all updated =
    let r := updatePeers cfg { c with st := updateMaps c.st updated.pdrs } updated.fars
    if !r.2 then (r.1, false) else modifyFwd cfg all.fars all.qers .modify r.1 all.pdrs := rfl

theorem sendUpdate_chain {R : Ctx → Ctx → Bool → Prop} (hR : Chain R) (cfg : Cfg4) (c : Ctx) (all updated : Rules)
    (maps : ∀ c, R c { c with st := updateMaps c.st updated.pdrs } true)
    (peers : ∀ c, R c (updatePeers cfg c updated.fars).1 (updatePeers cfg c updated.fars).2)
    (fwd : ∀ c ps, R c (modifyFwd cfg all.fars all.qers .modify c ps).1 (modifyFwd cfg all.fars all.qers .modify c ps).2) :
    R c (sendUpdate cfg c all updated).1 (sendUpdate cfg c all updated).2 := by
  rw [sendUpdate_eq]
  dsimp only
  have h3 := hR.trans (maps c) (peers _)
  generalize updatePeers _ _ _ = r at h3 ⊢
  obtain ⟨c3, ok3⟩ := r
  cases ok3
  · exact h3
  · exact hR.trans h3 (fwd _ _)

theorem sendUpdate_accepted (cfg : Cfg4) (c : Ctx) (all updated : Rules) (ok : (sendUpdate cfg c all updated).2 = true) :
    ∃ c3, updatePeers cfg { c with st := updateMaps c.st updated.pdrs } updated.fars = (c3, true) ∧
      sendUpdate cfg c all updated = modifyFwd cfg all.fars all.qers .modify c3 all.pdrs := by
  rw [sendUpdate_eq] at ok ⊢
  dsimp only at ok ⊢
  generalize updatePeers _ _ _ = r at ok ⊢
  obtain ⟨c3, ok3⟩ := r
  cases ok3
  · cases ok
  · exact ⟨c3, rfl, rfl⟩

/-- the counter cells a deletion gives back: `rfl`, stated so that the `….of_frame` lemmas get `g := some .ctr`, which they cannot
infer from `rfl` -/
theorem release_frame (s : St) (free : List Nat) : Frame (some .ctr) s { s with ctrFree := free } := rfl

theorem sendDelete_eq (cfg : Cfg4) (c : Ctx) (del : Rules) : sendDelete cfg c del =
    let r := modifyFwd cfg del.fars del.qers .delete c del.pdrs
    if !r.2 then (r.1, false) else
      let c2 := del.fars.foldl (removePeer cfg) (resetMeters
        { r.1 with st := { r.1.st with ctrFree := del.pdrs.foldl (fun l p => setAdd l p.ctrID) r.1.st.ctrFree } } del.qers)
      ({ c2 with st := removeMaps c2.st del.pdrs }, true) := rfl

theorem sendDelete_chain {R : Ctx → Ctx → Bool → Prop} (hR : Chain R) (cfg : Cfg4) (c : Ctx) (del : Rules)
    (fwd : ∀ c ps, R c (modifyFwd cfg del.fars del.qers .delete c ps).1 (modifyFwd cfg del.fars del.qers .delete c ps).2)
    (cells : ∀ c free, R c { c with st := { c.st with ctrFree := free } } true)
    (meters : ∀ c, R c (resetMeters c del.qers) true)
    (peers : ∀ c f, R c (removePeer cfg c f) true)
    (maps : ∀ c, R c { c with st := removeMaps c.st del.pdrs } true) :
    R c (sendDelete cfg c del).1 (sendDelete cfg c del).2 := by
  rw [sendDelete_eq]
  dsimp only
  have h1 := fwd c del.pdrs
  generalize modifyFwd _ _ _ _ _ _ = r at h1 ⊢
  obtain ⟨c1, ok⟩ := r
  cases ok
  · exact h1
  · exact hR.trans (hR.trans (hR.trans (hR.trans h1 (cells c1 _)) (meters _)) (removePeers_chain hR cfg peers _ del.fars)) (maps _)

end Up4
