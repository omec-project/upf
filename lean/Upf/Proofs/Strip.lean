import Upf.Model.Strip
/-! The comment scanner `strip` on documents cut into pieces (C18).  `Plain`, `Piece`, `render`, `expected`, `WF` are in the
model file because the statements speak of them; `wfB` there is the executable form of `WF` that the trace acceptor
runs, and `wfB_sound` is what lets its verdict stand for `WF`. -/

namespace Strip

theorem strip_code_ne (c : Char) (rest : List Char) (h : c ≠ '/') :
    strip .code (c :: rest) = c :: strip .code rest := by
  cases rest <;> simp [strip, h]

theorem strip_code_slash (d : Char) (r : List Char) (h1 : d ≠ '/') (h2 : d ≠ '*') :
    strip .code ('/' :: d :: r) = '/' :: strip .code (d :: r) := by
  simp [strip, h1, h2]

theorem strip_code_line (r : List Char) : strip .code ('/' :: '/' :: r) = strip .line r := by
  simp [strip]

theorem strip_code_block (r : List Char) (h : hasClose r = true) : strip .code ('/' :: '*' :: r) = strip .block r := by
  simp [strip, h]

theorem strip_line_cons (c : Char) (r : List Char) (h : c ≠ '\n') : strip .line (c :: r) = strip .line r := by
  simp [strip, h]

theorem strip_line_nl (r : List Char) : strip .line ('\n' :: r) = '\n' :: strip .code r := by
  simp [strip]

theorem strip_block_cons (c d : Char) (r : List Char) (h : ¬ (c = '*' ∧ d = '/')) :
    strip .block (c :: d :: r) = strip .block (d :: r) := by
  by_cases hc : c = '*' <;> simp_all [strip]

theorem hasClose_cons (c d : Char) (r : List Char) (h : c ≠ '\n') (hr : hasClose (d :: r) = true) :
    hasClose (c :: d :: r) = true := by
  by_cases hs : c = '*' <;> by_cases hd : d = '/' <;> simp_all [hasClose]

theorem NoPair.tail {a b x : Char} : ∀ {t : List Char}, NoPair a b (x :: t) → NoPair a b t
  | [], _ => trivial
  | _ :: _, h => h.2

theorem Plain.tail {c : Char} {t : List Char} (h : Plain (c :: t)) : Plain t :=
  ⟨h.1.tail, h.2.1.tail, by
    cases t with
    | nil => simp
    | cons d r => simpa [List.getLast?_cons_cons] using h.2.2⟩

theorem plain_append (cs rest : List Char) (h : Plain cs) :
    strip .code (cs ++ rest) = cs ++ strip .code rest := by
  induction cs with
  | nil => rfl
  | cons c t ih =>
    have ih := ih h.tail
    by_cases hc : c = '/'
    · -- a '/' inside plain text is followed by something that opens no comment
      subst hc
      match t, h with
      | [], h => exact absurd rfl h.2.2
      | d :: r, h =>
        rw [List.cons_append, List.cons_append, strip_code_slash _ _ (fun e => h.1.1 ⟨rfl, e⟩) fun e => h.2.1.1 ⟨rfl, e⟩]
        exact congrArg _ ih
    · rw [List.cons_append, strip_code_ne _ _ hc, ih]; rfl

theorem line_skip (body rest : List Char) (h : '\n' ∉ body) :
    strip .line (body ++ rest) = strip .line rest := by
  induction body with
  | nil => rfl
  | cons c t ih =>
    rw [List.cons_append, strip_line_cons _ _ fun e => h (e ▸ List.mem_cons_self), ih fun e => h (List.mem_cons_of_mem _ e)]

theorem hasClose_body (body rest : List Char) (h : '\n' ∉ body) :
    hasClose (body ++ '*' :: '/' :: rest) = true := by
  induction body with
  | nil => simp [hasClose]
  | cons c t ih =>
    have := ih fun e => h (List.mem_cons_of_mem _ e)
    cases t <;> exact hasClose_cons _ _ _ (fun e => h (e ▸ List.mem_cons_self)) this

theorem block_skip (body rest : List Char) (h : NoPair '*' '/' (body ++ ['*'])) :
    strip .block (body ++ '*' :: '/' :: rest) = strip .code rest := by
  induction body with
  | nil => simp [strip]
  | cons c t ih =>
    rw [← ih h.tail]
    cases t <;> exact strip_block_cons _ _ _ h.1

theorem strip_render (ps : List Piece) (h : WF ps) : strip .code (render ps) = expected ps := by
  induction ps with
  | nil => rfl
  | cons p ps ih =>
    cases p with
    | text cs => rw [render, expected, plain_append cs _ h.1, ih h.2]
    | line b =>
      obtain ⟨hb, hw, hnext⟩ := h
      rw [render, expected, strip_code_line, line_skip b _ hb, ← ih hw]
      -- the line comment ends at the end of input or at a newline, which both modes copy
      rcases hnext with rfl | ⟨cs, ps', rfl⟩
      · rfl
      · exact (strip_line_nl _).trans (strip_code_ne _ _ (by decide)).symm
    | block b =>
      obtain ⟨hb, hnp, hw⟩ := h
      rw [render, expected, strip_code_block _ (hasClose_body b _ hb), block_skip b _ hnp, ih hw]

theorem strip_sublist (m : Mode) (s : List Char) : (strip m s).Sublist s := by
  -- every branch of `strip` either keeps the head character in front of a recursive call or drops one or two characters
  fun_induction strip m s <;> simp_all [List.Sublist.cons]

theorem strip_length_le (m : Mode) (s : List Char) : (strip m s).length ≤ s.length :=
  (strip_sublist m s).length_le

theorem noPair_append (a b : Char) (xs ys : List Char) (hx : NoPair a b xs) (hy : NoPair a b ys)
    (hl : xs.getLast? ≠ some a) : NoPair a b (xs ++ ys) := by
  induction xs with
  | nil => exact hy
  | cons x t ih =>
    cases t with
    | nil =>
      cases ys with
      | nil => trivial
      | cons y r => exact ⟨fun h => hl (by rw [h.1]; rfl), hy⟩
    | cons d r => exact ⟨hx.1, ih hx.2 (by simpa [List.getLast?_cons_cons] using hl)⟩

theorem plain_nil : Plain [] := ⟨trivial, trivial, by simp⟩

theorem plain_concat (xs ys : List Char) (hx : Plain xs) (hy : Plain ys) : Plain (xs ++ ys) := by
  refine ⟨noPair_append _ _ _ _ hx.1 hy.1 hx.2.2, noPair_append _ _ _ _ hx.2.1 hy.2.1 hx.2.2, ?_⟩
  cases ys with
  | nil => simpa using hx.2.2
  | cons y r => simpa [List.getLast?_append] using hy.2.2

theorem expected_plain (ps : List Piece) (h : WF ps) : Plain (expected ps) := by
  induction ps with
  | nil => exact plain_nil
  | cons p ps ih =>
    cases p with
    | text cs => exact plain_concat _ _ h.1 (ih h.2)
    | line b => exact ih h.2.1
    | block b => exact ih h.2.2

theorem strip_plain (cs : List Char) (h : Plain cs) : strip .code cs = cs := by
  simpa [strip] using plain_append cs [] h

theorem strip_idem_render (ps : List Piece) (h : WF ps) :
    strip .code (strip .code (render ps)) = strip .code (render ps) := by
  rw [strip_render ps h, strip_plain _ (expected_plain ps h)]

theorem noPairB_sound (a b : Char) (l : List Char) (h : noPairB a b l = true) : NoPair a b l := by
  induction l with
  | nil => trivial
  | cons x t ih =>
    cases t with
    | nil => trivial
    | cons y r =>
      simp only [noPairB, Bool.and_eq_true, Bool.not_eq_true', Bool.and_eq_false_iff, beq_eq_false_iff_ne] at h
      refine ⟨?_, ih h.2⟩
      rintro ⟨rfl, rfl⟩
      rcases h.1 with h1 | h1 <;> exact h1 rfl

theorem plainB_sound (cs : List Char) (h : plainB cs = true) : Plain cs := by
  simp only [plainB, Bool.and_eq_true, bne_iff_ne] at h
  exact ⟨noPairB_sound _ _ _ h.1.1, noPairB_sound _ _ _ h.1.2, h.2⟩

theorem startsWithNewlineText_sound (ps : List Piece) (h : startsWithNewlineText ps = true) :
    ps = [] ∨ ∃ cs ps', ps = .text ('\n' :: cs) :: ps' := by
  unfold startsWithNewlineText at h
  split at h
  · exact Or.inl rfl
  · exact Or.inr ⟨_, _, rfl⟩
  · cases h

theorem wfB_sound (ps : List Piece) (h : wfB ps = true) : WF ps := by
  induction ps with
  | nil => trivial
  | cons p ps ih =>
    cases p with
    | text cs =>
      simp only [wfB, Bool.and_eq_true] at h
      exact ⟨plainB_sound cs h.1, ih h.2⟩
    | line b =>
      simp only [wfB, Bool.and_eq_true, Bool.not_eq_true', List.contains_eq_mem, decide_eq_false_iff_not] at h
      exact ⟨h.1.1, ih h.1.2, startsWithNewlineText_sound ps h.2⟩
    | block b =>
      simp only [wfB, Bool.and_eq_true, Bool.not_eq_true', List.contains_eq_mem, decide_eq_false_iff_not] at h
      exact ⟨h.1.1, noPairB_sound _ _ _ h.1.2, ih h.2⟩

end Strip
