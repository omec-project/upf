import Upf.Model.AgentMod
import Upf.Proofs.FindMap
/-!
The world of the agent model: reading and writing the record of an association, and every handler but `modify` as an equation for
what it returns; with them what several modules need of the parsing steps (`mark_cases`, `applyFwd_keeps`, `estPdrs_induction`).
-/
namespace Agent

def connOf (l : List (Nat × Conn)) (a : Nat) : Conn := ((l.find? (·.1 = a)).map (·.2)).getD {}
def setL (l : List (Nat × Conn)) (a : Nat) (c : Conn) : List (Nat × Conn) :=
  if l.any (·.1 = a) then l.map fun e => if e.1 = a then (a, c) else e else l ++ [(a, c)]

theorem conn_eq (w : World) (a : Nat) : w.conn a = connOf w.conns a := rfl

theorem setConn_eq (w : World) (a : Nat) (c : Conn) : w.setConn a c = { w with conns := setL w.conns a c } := by
  unfold World.setConn setL; split <;> rfl

theorem find_replace (a : Nat) (c : Conn) : ∀ (l : List (Nat × Conn)), (l.any fun x => decide (x.1 = a)) = true →
    (l.map fun e => if e.1 = a then (a, c) else e).find? (fun x => decide (x.1 = a)) = some (a, c) :=
  find?_replace_key (·.1) a (a, c) rfl

theorem connOf_setL_eq (l : List (Nat × Conn)) (a a' : Nat) (c : Conn) :
    connOf (setL l a c) a' = if a' = a then c else connOf l a' := by
  unfold setL connOf
  split
  · next hany =>
    by_cases h : a' = a
    · subst h; rw [find_replace a' c l hany, if_pos rfl]; rfl
    · rw [if_neg h, find?_replace_key_ne (·.1) a a' (a, c) rfl h l]
  · next hany =>
    rw [List.find?_append]
    by_cases h : a' = a
    · subst h
      rw [List.find?_eq_none.mpr fun x hx hxa => hany (List.any_eq_true.mpr ⟨x, hx, hxa⟩)]
      simp
    · simp [h, Ne.symm h]

theorem connOf_setL (l : List (Nat × Conn)) (a : Nat) (c : Conn) : connOf (setL l a c) a = c := by
  rw [connOf_setL_eq, if_pos rfl]

theorem connOf_setL_ne (l : List (Nat × Conn)) (a : Nat) (c : Conn) {a' : Nat} (h : a' ≠ a) : connOf (setL l a c) a' = connOf l a' := by
  rw [connOf_setL_eq, if_neg h]

theorem World.conn_setL (l : List (Nat × Conn)) (a : Nat) (c : Conn) (pool : Option Pool.P) (teid : Teid.G) (tables : Tables) :
    ({ conns := setL l a c, pool := pool, teid := teid, tables := tables } : World).conn a = c := connOf_setL ..

/-- for proofs that meet `setConn` itself (the UP4 side does); the equations of the handlers below are stated with `setL` and read
by `connOf_setL_eq` -/
theorem conn_setConn (w : World) (a : Nat) (c : Conn) : (w.setConn a c).conn a = c := by
  rw [setConn_eq]; exact connOf_setL ..

theorem connOf_filter_ne (l : List (Nat × Conn)) (a a' : Nat) (h : a' ≠ a) : connOf (l.filter (·.1 ≠ a)) a' = connOf l a' := by
  unfold connOf
  rw [List.find?_filter]
  congr 3
  funext e
  by_cases he : e.1 = a' <;> simp [he, h]

def putSession (w : World) (a seid : Nat) (s' : Session) : List (Nat × Conn) :=
  setL w.conns a { w.conn a with sessions := (w.conn a).sessions.map fun x => if x.lseid = seid then s' else x }

theorem connOf_putSession (w : World) (a seid : Nat) (s' : Session) : connOf (putSession w a seid s') a =
    { w.conn a with sessions := (w.conn a).sessions.map fun x => if x.lseid = seid then s' else x } := connOf_setL ..

theorem find?_putSession_self (w : World) (a seid : Nat) (s0 s' : Session) (h : (w.conn a).sessions.find? (·.lseid = seid) = some s0)
    (hl : s'.lseid = seid) : (connOf (putSession w a seid s') a).sessions.find? (·.lseid = seid) = some s' := by
  rw [connOf_putSession]
  exact find?_replace_key (·.lseid) seid s' hl (w.conn a).sessions (List.any_eq_true.mpr ⟨s0, List.mem_of_find?_eq_some h, by simpa using List.find?_some h⟩)

theorem setL_setL (l : List (Nat × Conn)) (a : Nat) (c1 c2 : Conn) (h : l.any (·.1 = a) = true) :
    setL (setL l a c1) a c2 = setL l a c2 := by
  unfold setL
  rw [if_pos h]
  have h' : (l.map fun e => if e.1 = a then (a, c1) else e).any (·.1 = a) = true := by
    rw [List.any_map]
    obtain ⟨x, hx, hxa⟩ := List.any_eq_true.mp h
    exact List.any_eq_true.mpr ⟨x, hx, by simp only [Function.comp]; have : x.1 = a := by simpa using hxa
                                          simp [this]⟩
  rw [if_pos h', List.map_map, if_pos h]
  apply List.map_congr_left
  intro e _
  by_cases he : e.1 = a <;> simp [Function.comp, he]

theorem any_of_conn_sessions (l : List (Nat × Conn)) (a : Nat) (s : Session) (h : s ∈ (connOf l a).sessions) : l.any (·.1 = a) = true := by
  unfold connOf at h
  cases hf : l.find? (fun x => decide (x.1 = a)) with
  | none => rw [hf] at h; simp at h
  | some e =>
    exact List.any_eq_true.mpr ⟨e, List.mem_of_find?_eq_some hf, by simpa using List.find?_some hf⟩

theorem putSession_again (w w1 : World) (a seid : Nat) (s0 s1 : Session) (h : (w.conn a).sessions.find? (·.lseid = seid) = some s0)
    (hc : w1.conns = putSession w a seid s1) (hl : s1.lseid = seid) :
    (w1.conn a).sessions.find? (·.lseid = seid) = some s1 ∧ ∀ s2, putSession w1 a seid s2 = putSession w a seid s2 := by
  have hconn : w1.conn a = { w.conn a with sessions := (w.conn a).sessions.map fun x => if x.lseid = seid then s1 else x } := by
    rw [conn_eq, hc]; exact connOf_setL ..
  refine ⟨by rw [conn_eq, hc]; exact find?_putSession_self w a seid s0 s1 h hl, fun s2 => ?_⟩
  unfold putSession
  rw [hconn, hc]
  unfold putSession
  rw [setL_setL _ _ _ _ (any_of_conn_sessions w.conns a s0 (List.mem_of_find?_eq_some h))]
  congr 1
  dsimp only
  rw [List.map_map]
  congr 1
  apply List.map_congr_left
  intro x _
  by_cases hx : x.lseid = seid <;> simp [Function.comp, hx, hl]

/-- `RemoveSession` and the Remove PDR loop return the TEIDs the UP chose for these PDRs -/
def freeAll (pdrs : List Pdr) (g : Teid.G) : Teid.G := pdrs.foldl (fun g p => if p.chooseTeid then Teid.free g p.tunnelTEID else g) g

theorem freeAll_append (l l' : List Pdr) (g : Teid.G) : freeAll (l ++ l') g = freeAll l' (freeAll l g) := List.foldl_append

/-- `RemoveSession` returns the address held under the session's SEID, if there is a pool -/
def freeAddr (pool : Option Pool.P) (lseid : Nat) : Option Pool.P := pool.map fun pl => (Pool.dealloc pl lseid).2

theorem releaseRes_eq (pool : Option Pool.P) (g : Teid.G) (lseid : Nat) (pdrs : List Pdr) :
    releaseRes pool g lseid pdrs = (freeAddr pool lseid, freeAll pdrs g) := rfl

theorem mark_cases (pdrs : List Pdr) (qers : List Qer) :
    markSessionQer pdrs qers = (qers, pdrs) ∨
    ∃ last cands i id m, pdrs.getLast? = some last ∧ common last.qerIDs (pdrs.map (·.qerIDs)) = some cands ∧
      choose cands qers 0 none = some (i, id, m) ∧
      markSessionQer pdrs qers = (qers.mapIdx (fun j q => if j = i then { q with session := true } else q),
        pdrs.map fun p => { p with qerIDs := moveLast p.qerIDs id }) := by
  cases hlast : pdrs.getLast? with
  | none => left; simp only [markSessionQer, hlast]
  | some last =>
    by_cases hlen : last.qerIDs.length < 1 ∨ qers.length < 2
    · left; simp only [markSessionQer, hlast, hlen, if_true]
    · cases hc : common last.qerIDs (pdrs.map (·.qerIDs)) with
      | none => left; simp only [markSessionQer, hlast, hlen, if_false, hc]
      | some cands =>
        cases hch : choose cands qers 0 none with
        | none => left; simp only [markSessionQer, hlast, hlen, if_false, hc, hch]
        | some v =>
          exact Or.inr ⟨last, cands, v.1, v.2.1, v.2.2, rfl, hc, hch, by simp only [markSessionQer, hlast, hlen, if_false, hc, hch]⟩

theorem applyFwd_keeps (cfg : Cfg) (f : Far) (w : FwdIE) :
    (applyFwd cfg f w).fseID = f.fseID ∧ (applyFwd cfg f w).sendEndMarker = (f.sendEndMarker || w.smreq.any has2ndBit) := by
  unfold applyFwd
  extract_lets f1 f2
  have h1 : f1.fseID = f.fseID ∧ f1.sendEndMarker = f.sendEndMarker := by cases h : w.ohc <;> simp only [f1, h, and_self]
  have h2 : f2.fseID = f.fseID ∧ f2.sendEndMarker = f.sendEndMarker := by
    rw [← h1.1, ← h1.2]
    cases h : w.dst with
    | none => simp only [f2, h, and_self]
    | some d => simp only [f2, h]; split; exact ⟨rfl, rfl⟩; split <;> exact ⟨rfl, rfl⟩
  rw [← h2.1, ← h2.2]
  cases w.smreq with
  | none => exact ⟨rfl, (Bool.or_false _).symm⟩
  | some fl => dsimp only [Option.any]; split <;> simp [*]

theorem assocSetup_eq (w : World) (a : Nat) (node : String) :
    assocSetup w a node = { w with conns := setL w.conns a { w.conn a with remoteNode := node } } := setConn_eq ..

theorem pfdManagement_true (w : World) (a : Nat) (apps : List (String × List String)) :
    pfdManagement w a apps true = { w with conns := setL w.conns a { w.conn a with apps := apps } } := setConn_eq ..

theorem pfdManagement_false (w : World) (a : Nat) (apps : List (String × List String)) : pfdManagement w a apps false = w := rfl

def estOut : Except (Nat × List Pdr × Option Pool.P × Teid.G) (List Pdr × Option Pool.P × Teid.G) → List Pdr × Option Pool.P × Teid.G
  | .ok v => v
  | .error (_, v) => v

theorem estPdrs_induction (cfg : Cfg) (lseid ip : Nat) (apps : List (String × List String)) (P : List Pdr → Option Pool.P → Teid.G → Prop)
    (hparse : ∀ ie acc pool g, P acc pool g → P acc (parsePDR lseid apps ie pool).2 g)
    (hchoose : ∀ (p' : Pdr) acc pool g id g', P acc pool g → Teid.allocate M g = some (id, g') → p'.chooseTeid = true → p'.tunnelTEID = id →
      P (p' :: acc) pool g')
    (hkeep : ∀ (p : Pdr) acc pool g, P acc pool g → p.chooseTeid = false → P (p :: acc) pool g) :
    ∀ (ies : List PdrIE) (pool : Option Pool.P) (g : Teid.G) (acc : List Pdr), P acc pool g →
    ∃ acc', (estOut (estPdrs cfg lseid ip apps ies pool g acc)).1 = acc'.reverse ∧
      P acc' (estOut (estPdrs cfg lseid ip apps ies pool g acc)).2.1 (estOut (estPdrs cfg lseid ip apps ies pool g acc)).2.2
  | [], _, _, acc, h => ⟨acc, rfl, h⟩
  | ie :: rest, pool, g, acc, h => by
    unfold estPdrs
    have hp := hparse ie acc pool g h
    cases hpp : parsePDR lseid apps ie pool with
    | mk res pool' =>
    rw [hpp] at hp
    cases res with
    | error e => cases e; exact ⟨acc, rfl, hp⟩
    | ok p =>
      dsimp only
      by_cases hc : p.chooseTeid = true
      · rw [if_pos hc]
        cases ha : Teid.allocate M g with
        | none => exact ⟨acc, rfl, hp⟩
        | some v => exact estPdrs_induction cfg lseid ip apps P hparse hchoose hkeep rest pool' v.2 _ (hchoose _ acc pool' g v.1 v.2 hp ha hc rfl)
      · rw [if_neg hc]
        exact estPdrs_induction cfg lseid ip apps P hparse hchoose hkeep rest pool' g _ (hkeep _ acc pool' g hp (by simpa using hc))

def estSession (lseid : Nat) (r : EstReq) (pdrs : List Pdr) (fars : List Far) : Session :=
  let qers := r.qers.map fun ie => { parseQER lseid ie with fseidIP := r.cpIP }
  { lseid := lseid, rseid := r.cpSeid, pdrs := (markSessionQer (markSessionQer pdrs qers).2 qers).2, fars := fars,
    qers := (markSessionQer pdrs qers).1 }

/-- **`establish`**: refused without association — nothing happens; refused later — what the PDR loop had taken is given back; or
accepted — the session with the drawn SEID is appended and programmed. `o` is what the PDR loop leaves in either outcome. -/
theorem establish_cases (cfg : Cfg) (w : World) (a lseid : Nat) (r : EstReq) :
    let o := estOut (estPdrs cfg lseid r.cpIP (w.conn a).apps r.pdrs w.pool w.teid [])
    establish cfg w a lseid r = (w, { cause := causeNoAssoc, seid := r.cpSeid }) ∨
    (∃ cause, establish cfg w a lseid r =
      ({ w with pool := freeAddr o.2.1 lseid, teid := freeAll o.1 o.2.2 },
       { cause := cause, seid := r.cpSeid })) ∨
    ∃ fars s, mapFars cfg lseid r.cpIP false r.fars = .ok fars ∧ s = estSession lseid r o.1 fars ∧
      establish cfg w a lseid r =
        ({ conns := setL w.conns a { w.conn a with sessions := (w.conn a).sessions ++ [s] }, pool := o.2.1, teid := o.2.2,
           tables := sendAdd cfg w.tables s.pdrs s.fars s.qers },
         { cause := causeAccepted, seid := r.cpSeid, upSeid := some lseid, created := createdOf o.1 }) := by
  unfold establish
  dsimp only
  simp only [releaseRes_eq]
  split
  · exact .inl rfl
  · cases estPdrs cfg lseid r.cpIP (w.conn a).apps r.pdrs w.pool w.teid [] with
    | error e => exact .inr (.inl ⟨_, rfl⟩)
    | ok v =>
      dsimp only
      cases mapFars cfg lseid r.cpIP false r.fars with
      | error e => cases e; exact .inr (.inl ⟨_, rfl⟩)
      | ok fars => exact .inr (.inr ⟨fars, _, rfl, rfl, congrArg (·, _) (setConn_eq ..)⟩)

theorem establish_noAssoc (cfg : Cfg) (w : World) (a lseid : Nat) (r : EstReq) (h : r.nodeID ≠ (w.conn a).remoteNode) :
    establish cfg w a lseid r = (w, { cause := causeNoAssoc, seid := r.cpSeid }) := by
  unfold establish; simp only [h, ne_eq, not_false_eq_true, if_true]

theorem deleteSession_eq (cfg : Cfg) (w : World) (a seid : Nat) :
    deleteSession cfg w a seid = (reportContextNotFound cfg w a seid,
      match (w.conn a).sessions.find? (·.lseid = seid) with
      | none => { cause := causeRejected, seid := 0 }
      | some s => { cause := causeAccepted, seid := s.rseid }) := by
  unfold deleteSession reportContextNotFound
  dsimp only
  cases (w.conn a).sessions.find? (·.lseid = seid) <;> rfl

theorem deleteSession_world (cfg : Cfg) (w : World) (a seid : Nat) :
    (deleteSession cfg w a seid).1 = reportContextNotFound cfg w a seid := by rw [deleteSession_eq]

theorem dropSession_eq (cfg : Cfg) (w : World) (s : Session) : dropSession cfg w s =
    { conns := w.conns, tables := sendDel cfg w.tables s.pdrs s.fars s.qers, teid := freeAll s.pdrs w.teid, pool := freeAddr w.pool s.lseid } := by
  unfold dropSession; rw [releaseRes_eq]

theorem reportContextNotFound_eq (cfg : Cfg) (w : World) (a seid : Nat) :
    reportContextNotFound cfg w a seid =
      match (w.conn a).sessions.find? (·.lseid = seid) with
      | none => w
      | some s =>
        { conns := setL w.conns a { w.conn a with sessions := (w.conn a).sessions.filter (·.lseid ≠ seid) },
          tables := sendDel cfg w.tables s.pdrs s.fars s.qers, teid := freeAll s.pdrs w.teid, pool := freeAddr w.pool s.lseid } := by
  unfold reportContextNotFound
  dsimp only
  cases (w.conn a).sessions.find? (·.lseid = seid) with
  | none => rfl
  | some s => dsimp only; rw [setConn_eq, dropSession_eq]

theorem foldl_drop_eq (cfg : Cfg) : ∀ (ss : List Session) (w : World), ss.foldl (dropSession cfg) w =
    { conns := w.conns, tables := ss.foldl (fun t s => sendDel cfg t s.pdrs s.fars s.qers) w.tables,
      teid := freeAll (ss.flatMap (·.pdrs)) w.teid, pool := ss.foldl (fun p s => freeAddr p s.lseid) w.pool }
  | [], _ => rfl
  | s :: rest, w => by rw [List.foldl_cons, foldl_drop_eq cfg rest, dropSession_eq, List.flatMap_cons, freeAll_append]; rfl

theorem shutdownConn_eq (cfg : Cfg) (w : World) (a : Nat) :
    shutdownConn cfg w a =
      { conns := w.conns.filter (·.1 ≠ a), tables := (w.conn a).sessions.foldl (fun t s => sendDel cfg t s.pdrs s.fars s.qers) w.tables,
        teid := freeAll ((w.conn a).sessions.flatMap (·.pdrs)) w.teid,
        pool := (w.conn a).sessions.foldl (fun p s => freeAddr p s.lseid) w.pool } := by
  unfold shutdownConn; dsimp only; rw [foldl_drop_eq]

end Agent
