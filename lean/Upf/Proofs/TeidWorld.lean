import Upf.Proofs.Store
import Upf.Proofs.AgentTeid
/-!
C07 at the level of the agent: the TEIDs the agent has chosen for the stored sessions (F-TEID with the CHOOSE flag)
are non-zero, pairwise different — across all associations — and marked in use in the allocator, across every store transition:
establishments (accepted or refused at any point), sessions ending, stored sessions rewritten.
-/
namespace Agent

def chosen (w : World) : List Nat := (allSessions w).flatMap fun s => chosenL s.pdrs

/-- the allocator's cursor is in range, and exactly the TEIDs chosen for stored sessions are in use, each once -/
structure TeidInv (w : World) : Prop where
  off : w.teid.offset < M
  held : Held (chosen w) w.teid

def chosenS (ss : List Session) : List Nat := ss.flatMap fun s => chosenL s.pdrs

theorem chosenS_single (s : Session) : chosenS [s] = chosenL s.pdrs := List.flatMap_singleton ..

theorem chosenS_pdrs (ss : List Session) : chosenS ss = chosenL (ss.flatMap (·.pdrs)) := by
  unfold chosenS chosenL; rw [List.filter_flatMap, List.map_flatMap]

theorem TeidInv.start (pool : Option Pool.P) (g : Teid.G) (hg : g.offset < M) (hfresh : ∀ x, g.used x = false) :
    TeidInv { pool := pool, teid := g } :=
  ⟨hg, by simp [chosen, allSessions, flat, Held, hfresh]⟩

theorem TeidInv.of_trans {w w' : World} {old new : List Session} (hT : TeidInv w) (T : Trans w w' old new)
    (h : ∀ ext, Held (ext ++ chosenS old) w.teid → w'.teid.offset < M ∧ Held (ext ++ chosenS new) w'.teid) : TeidInv w' := by
  obtain ⟨R, p, p'⟩ := T.perm
  -- `chosen v` is `chosenS (allSessions v)` by definition; the rest `R` goes first, to be the `ext` of `h`
  have c : ∀ {v : World} {l : List Session}, (allSessions v).Perm (l ++ R) → (chosen v).Perm (chosenS R ++ chosenS l) := fun q =>
    (List.Perm.flatMap_right _ q).trans (by rw [List.flatMap_append]; exact List.perm_append_comm)
  obtain ⟨ho, hh⟩ := h _ (hT.held.perm (c p))
  exact ⟨ho, hh.perm (c p').symm⟩

/-- `D`: the PDRs of the leaving sessions that the entering ones do not keep -/
theorem TeidInv.release {w w' : World} {old new : List Session} (hT : TeidInv w) (T : Trans w w' old new) (D : List Pdr)
    (hg : w'.teid = freeAll D w.teid) (hc : (chosenS old).Perm (chosenL D ++ chosenS new)) : TeidInv w' :=
  hT.of_trans T fun ext hh => by
    have := freeAll_held (ext ++ chosenS new) D w.teid
      (hh.perm ((List.Perm.append_left ext (hc.trans List.perm_append_comm)).trans (by rw [List.append_assoc])))
    rw [hg, freeAll_offset]
    exact ⟨hT.off, this⟩

theorem establish_teidInv (cfg : Cfg) (w : World) (a lseid : Nat) (r : EstReq) (hk : (w.conns.map (·.1)).Nodup) (hT : TeidInv w) :
    TeidInv (establish cfg w a lseid r).1 := by
  have hloop := fun ext => estPdrs_held cfg lseid r.cpIP (w.conn a).apps ext r.pdrs w.pool w.teid [] hT.off
  rcases establish_cases cfg w a lseid r with h | ⟨_, h⟩ | ⟨fars, s, _, hs, h⟩ <;> rw [h]
  · exact hT
  · refine hT.of_trans (.of_conns_eq hk rfl) fun ext hh => ?_
    obtain ⟨ho, hh'⟩ := hloop ext hh
    have := freeAll_held ext _ _ hh'
    exact ⟨(freeAll_offset ..).symm ▸ ho, (List.append_nil ext).symm ▸ this⟩
  · refine hT.of_trans (.append hk rfl) fun ext hh => ?_
    rw [chosenS_single, hs]; unfold estSession; rw [chosenL_mark, chosenL_mark]
    exact hloop ext hh

theorem TeidInv.ends {cfg : Cfg} {w w' : World} {ss : List Session} (hT : TeidInv w) (E : Ends cfg w w' ss) : TeidInv w' :=
  hT.release E.toTrans _ (by rw [E.drops])
    (by rw [chosenS_pdrs]; exact (List.append_nil _).symm ▸ .refl _)

end Agent
