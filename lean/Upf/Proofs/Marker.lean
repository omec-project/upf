import Upf.Model.Marker
/-! Stand-alone prototype for C14: `UpdateFAR` / `addEndMarker` (pfcpiface/session_far.go) over a list of updates; C14 itself is proved on `Agent.updFars` in `AgentMarker`, no Props file imports this one. -/

namespace Marker

theorem find_cons (v : Far) (vs : List Far) (id : Nat) :
    find (v :: vs) id = if v.id = id then some v else find vs id := by
  by_cases h : v.id = id <;> simp [find, h]

theorem updateOne_none {fars : List Far} {u : Far} (h : find fars u.id = none) : updateOne fars u = none := by
  induction fars with
  | nil => rfl
  | cons v vs ih =>
    rw [find_cons] at h
    rw [updateOne]
    split at h
    · cases h
    · rw [if_neg ‹_›, ih h]; rfl

/-- the marker comes from the stored FAR, and the FARs with other ids are found as before -/
theorem updateOne_some {fars : List Far} {u old : Far} (h : find fars u.id = some old) :
    ∃ fars', updateOne fars u = some (fars', if u.sndem then [marker old] else []) ∧
      ∀ id, id ≠ u.id → find fars' id = find fars id := by
  induction fars with
  | nil => cases h
  | cons v vs ih =>
    rw [find_cons] at h
    rw [updateOne]
    split at h
    next hv =>
      cases h
      refine ⟨u :: vs, if_pos hv, fun id hne => ?_⟩
      rw [find_cons, find_cons, if_neg (Ne.symm hne), if_neg (hv ▸ Ne.symm hne)]
    next hv =>
      obtain ⟨vs', e, hoth⟩ := ih h
      exact ⟨v :: vs', by rw [if_neg hv, e]; rfl, fun id hne => by rw [find_cons, find_cons, hoth id hne]⟩

/-- exactly one marker per flagged update of a known FAR, built from the FAR stored BEFORE this message,
    in the order of the Update FAR IEs — provided the message does not update one FAR twice -/
theorem markers_exact : ∀ (us : List Far) (fars : List Far), (us.map (·.id)).Nodup →
    (updateAll fars us).2 =
      us.flatMap fun u => match find fars u.id with
        | some old => if u.sndem then [marker old] else []
        | none => [] := by
  intro us
  induction us with
  | nil => intro fars _; rfl
  | cons u us ih =>
    intro fars hnd
    rw [List.map_cons, List.nodup_cons] at hnd
    rw [updateAll, List.flatMap_cons]
    cases hfind : find fars u.id with
    | none => rw [updateOne_none hfind]; exact ih fars hnd.2
    | some old =>
      obtain ⟨fars', hr, hoth⟩ := updateOne_some hfind
      simp only [hr, ih fars' hnd.2, List.flatMap_def]
      congr 2
      -- the later updates have other ids, so they see the same stored FARs
      exact List.map_congr_left fun w hw => by
        rw [hoth w.id fun e => hnd.1 (e ▸ List.mem_map.mpr ⟨w, hw, rfl⟩)]

#print axioms markers_exact

end Marker
