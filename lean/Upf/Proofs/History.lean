import Upf.Proofs.ModFar
import Upf.Proofs.ModRem
import Upf.Proofs.ModAdd
import Upf.Proofs.AnyHistory
/-!
Histories of the agent model: association setup, PFD update, establishment, deletion, report "context not found",
association ending, and Session Modifications that only update FARs, only remove or only create rules. One step keeps `Inv`
and, with it, the other invariants that need the envelope (`Keeps`): `step_keeps`; the history theorems read their part
off `run_keeps`. An event is a request (`Ev.toReq`): what holds of arbitrary requests (`AnyHistory`) holds along these histories.
-/
namespace Agent

inductive Ev
  | assoc (a : Nat) (node : String)
  | pfd (a : Nat) (apps : List (String × List String)) (ok : Bool)
  | est (a lseid : Nat) (r : EstReq)
  | del (a seid : Nat)
  | report (a seid : Nat)
  | shutdown (a : Nat)
  | modFar (a : Nat) (r : ModReq)
  | modRem (a : Nat) (r : ModReq)
  | modAdd (a : Nat) (r : ModReq)

def stepEv (cfg : Cfg) (w : World) : Ev → World
  | .assoc a node => assocSetup w a node
  | .pfd a apps ok => pfdManagement w a apps ok
  | .est a lseid r => (establish cfg w a lseid r).1
  | .del a seid => (deleteSession cfg w a seid).1
  | .report a seid => reportContextNotFound cfg w a seid
  | .shutdown a => shutdownConn cfg w a
  | .modFar a r => (modify cfg w a r).world
  | .modRem a r => (modify cfg w a r).world
  | .modAdd a r => (modify cfg w a r).world

/-- the envelope of C03 along a history: a session that an establishment stores has a SEID and keys no stored session has;
a modification in the history carries Update FAR IEs only, or Remove PDR / FAR / QER IEs only, or Create PDR / FAR / QER IEs only
(`AddEnv`: new rule IDs, no CHOOSE F-TEID, keys no other session has), on a session whose session-QER marking
is stable (the open finding "session-QER relabelled" is outside) and — for removals — whose rules have pairwise different table keys. That the stored FARs carry their session's SEID is NOT assumed: it is the invariant `FarWf`. -/
def EnvOK (cfg : Cfg) : World → List Ev → Prop
  | _, [] => True
  | w, ev :: rest =>
    (match ev with
     | .est a lseid r => (establish cfg w a lseid r).2.upSeid.isSome → ∀ s : Session, newSession cfg w a lseid r = some s →
         ∀ s' ∈ allSessions w, Disj cfg s s'
     | .modFar a r => FarOnly r ∧ ∀ s0, (w.conn a).sessions.find? (·.lseid = r.seid) = some s0 →
         markSessionQer s0.pdrs s0.qers = (s0.qers, s0.pdrs)
     | .modRem a r => RemOnly r ∧ ∀ s0, (w.conn a).sessions.find? (·.lseid = r.seid) = some s0 →
         markSessionQer s0.pdrs s0.qers = (s0.qers, s0.pdrs) ∧ SelfNodup cfg s0
     | .modAdd a r => AddOnly r ∧ ∀ s0, (w.conn a).sessions.find? (·.lseid = r.seid) = some s0 →
         ∀ cp pool1 cf, parsePdrs r.seid (fseidIPOf' r) (w.conn a).apps r.createPdrs w.pool = .ok (cp, pool1) →
           mapFars cfg r.seid (fseidIPOf' r) false r.createFars = .ok cf → AddEnv cfg w r s0 cp cf
     | _ => True) ∧ EnvOK cfg (stepEv cfg w ev) rest

def Ev.toReq : Ev → Req
  | .assoc a node => .assoc a node
  | .pfd a apps ok => .pfd a apps ok
  | .est a lseid r => .est a lseid r
  | .del a seid => .del a seid
  | .report a seid => .report a seid
  | .shutdown a => .shutdown a
  | .modFar a r => .mod a r
  | .modRem a r => .mod a r
  | .modAdd a r => .mod a r

theorem stepEv_toReq (cfg : Cfg) (w : World) (ev : Ev) : stepEv cfg w ev = stepReq cfg w ev.toReq := by cases ev <;> rfl

theorem foldl_stepEv (cfg : Cfg) (evs : List Ev) (w : World) :
    evs.foldl (stepEv cfg) w = (evs.map Ev.toReq).foldl (stepReq cfg) w := by
  rw [List.foldl_map]; exact congrArg (fun f => evs.foldl f w) (funext fun w => funext (stepEv_toReq cfg w))

theorem stepReq_ends (cfg : Cfg) (w : World) (q : Req) (hS : StoreWf w) (hq : q.mayAllocate = false) :
    Ends cfg w (stepReq cfg w q) (q.dropped w) := by
  have report : ∀ a seid, Trans w (reportContextNotFound cfg w a seid) ((w.conn a).sessions.find? (·.lseid = seid)).toList [] :=
    fun a seid => by
      cases hf : (w.conn a).sessions.find? (·.lseid = seid) with
      | none => exact .of_conns_eq hS.keys (by rw [reportContextNotFound_eq, hf])
      | some s => exact .remove hS hf (by rw [reportContextNotFound_eq, hf])
  refine ⟨?_, stepReq_drops cfg w q hq⟩
  cases q with
  | assoc a node => exact .setL_sessions_eq hS.keys (congrArg World.conns (assocSetup_eq w a node)) rfl
  | pfd a apps ok =>
    cases ok
    · exact .of_conns_eq hS.keys (congrArg World.conns (pfdManagement_false w a apps))
    · exact .setL_sessions_eq hS.keys (congrArg World.conns (pfdManagement_true w a apps)) rfl
  | est a lseid r => cases hq
  | mod a r => cases hq
  | del a seid => rw [stepReq_del]; exact report a seid
  | report a seid => exact report a seid
  | shutdown a => exact .forget hS.keys (congrArg World.conns (shutdownConn_eq cfg w a))

theorem step_keeps (cfg : Cfg) (w : World) (ev : Ev) (hI : Inv cfg w) (hW : FarWf w) (henv : EnvOK cfg w [ev]) :
    Inv cfg (stepEv cfg w ev) ∧ Keeps w (stepEv cfg w ev) := by
  have ends : ∀ q : Req, q.mayAllocate = false → Inv cfg (stepReq cfg w q) ∧ Keeps w (stepReq cfg w q) := fun q hq =>
    ⟨hI.ends (stepReq_ends cfg w q hI.storeWf hq), (stepReq_ends cfg w q hI.storeWf hq).keeps⟩
  -- a modification names a stored session or changes nothing
  have mod : ∀ a r, (∀ s0, (w.conn a).sessions.find? (·.lseid = r.seid) = some s0 → s0 ∈ allSessions w →
      Inv cfg (modify cfg w a r).world ∧ Keeps w (modify cfg w a r).world) →
      Inv cfg (modify cfg w a r).world ∧ Keeps w (modify cfg w a r).world := fun a r k => by
    cases hf : (w.conn a).sessions.find? (·.lseid = r.seid) with
    | none => rw [modify_eq_unknown cfg hf]; exact ⟨hI, .refl⟩
    | some s0 => exact k s0 hf (mem_conn_all hI.keys (List.mem_of_find?_eq_some hf))
  rw [stepEv_toReq]
  cases ev with
  | assoc a node => exact ends (.assoc a node) rfl
  | pfd a apps ok => exact ends (.pfd a apps ok) rfl
  | est a lseid r => exact ⟨establish_inv cfg w a lseid r hI henv.1, establish_keeps cfg w a lseid r hI.keys⟩
  | del a seid => exact ends (.del a seid) rfl
  | report a seid => exact ends (.report a seid) rfl
  | shutdown a => exact ends (.shutdown a) rfl
  | modFar a r => exact mod a r fun s0 hf hs0 => modFar_step cfg w a r s0 hI henv.1.1 hf (henv.1.2 s0 hf) (hW s0 hs0)
  | modRem a r => exact mod a r fun s0 hf _ => modRem_step cfg w a r s0 hI henv.1.1 hf (henv.1.2 s0 hf).1 (henv.1.2 s0 hf).2
  | modAdd a r => exact mod a r fun s0 hf _ => modAdd_step cfg w a r s0 hI henv.1.1 hf (henv.1.2 s0 hf)

theorem run_keeps (cfg : Cfg) : ∀ (evs : List Ev) (w : World), Inv cfg w → FarWf w → EnvOK cfg w evs →
    Inv cfg (evs.foldl (stepEv cfg) w) ∧ Keeps w (evs.foldl (stepEv cfg) w)
  | [], _, hI, _, _ => ⟨hI, .refl⟩
  | ev :: rest, w, hI, hW, henv => by
    obtain ⟨hI', K⟩ := step_keeps cfg w ev hI hW ⟨henv.1, trivial⟩
    obtain ⟨hI'', K'⟩ := run_keeps cfg rest _ hI' (K.farwf hW) henv.2
    exact ⟨hI'', K.trans K'⟩

/-- **C03 on the agent model, every history**: from start-up on, after every association setup, PFD update, establishment
(accepted or refused), deletion, report "context not found", association ending and modification that only updates FARs, only removes
or only creates rules, over any number of associations and sessions, the four lookup tables are the image of the stored sessions -/
theorem inv_run (cfg : Cfg) : ∀ (evs : List Ev) (w : World), Inv cfg w → FarWf w → EnvOK cfg w evs →
    Inv cfg (evs.foldl (stepEv cfg) w) ∧ FarWf (evs.foldl (stepEv cfg) w) :=
  fun evs w hI hW henv => (run_keeps cfg evs w hI hW henv).imp_right fun K => K.farwf hW

/-- **the image and the TEID invariant along every history** -/
theorem inv_teid_run (cfg : Cfg) : ∀ (evs : List Ev) (w : World), Inv cfg w → FarWf w → TeidInv w → EnvOK cfg w evs →
    Inv cfg (evs.foldl (stepEv cfg) w) ∧ TeidInv (evs.foldl (stepEv cfg) w) :=
  fun evs w hI hW hT henv => (run_keeps cfg evs w hI hW henv).imp_right fun K => K.teid hT

/-- **along every history**: the pool invariant of C06 holds (as after any requests: `pool_any_history`) and every held address is held
by a stored session -/
theorem pool_run (base : List Nat) (cfg : Cfg) : ∀ (evs : List Ev) (w : World), Inv cfg w → FarWf w → EnvOK cfg w evs → PoolInv base w.pool → Owned w →
    PoolInv base (evs.foldl (stepEv cfg) w).pool ∧ Owned (evs.foldl (stepEv cfg) w) :=
  fun evs w hI hW henv hP hO =>
    ⟨foldl_stepEv cfg evs w ▸ pool_any_history base cfg _ w hP, (run_keeps cfg evs w hI hW henv).2.owned hO⟩

end Agent
