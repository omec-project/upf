import Upf.Proofs.Modify
import Upf.Proofs.IPPool
/-!
What the handlers do with the UE address pool, whatever the request (C05 / C06): parsing the rules of a session keeps the pool invariant
of C06 and lets only that session come to hold an address (`PoolStep`); a session that ends gives its address back.
-/
namespace Agent

def PoolInv (base : List Nat) : Option Pool.P → Prop
  | none => True
  | some p => Pool.Inv base p

def poolKeys : Option Pool.P → List Nat
  | none => []
  | some p => p.inv.map (·.1)

theorem PoolInv.start (base : List Nat) (hb : base.Nodup) : PoolInv base (some { free := base, inv := [] }) :=
  ⟨by simp, hb, by simp⟩

structure PoolStep (seid : Nat) (p p' : Option Pool.P) : Prop where
  inv : ∀ base, PoolInv base p → PoolInv base p'
  keys : ∀ k ∈ poolKeys p', k ∈ poolKeys p ∨ k = seid

theorem PoolStep.refl {seid : Nat} {p : Option Pool.P} : PoolStep seid p p := ⟨fun _ h => h, fun _ h => .inl h⟩

theorem PoolStep.trans {seid : Nat} {p p' p'' : Option Pool.P} (h : PoolStep seid p p') (h' : PoolStep seid p' p'') : PoolStep seid p p'' :=
  ⟨fun base hp => h'.inv base (h.inv base hp), fun k hk => (h'.keys k hk).elim (h.keys k) .inr⟩

theorem alloc_pool (pl : Pool.P) (s : Nat) : PoolStep s (some pl) (some (Pool.alloc pl s).2) := by
  refine ⟨fun base h => Pool.inv_alloc base pl s h, fun k hk => ?_⟩
  unfold Pool.alloc at hk
  split at hk
  · exact .inl hk
  · split at hk
    · exact .inl hk
    · exact (List.mem_cons.mp hk).elim .inr .inl

theorem ueStep_pool (seid : Nat) (ueip : Option (Nat × Nat)) (pool : Option Pool.P) (p : Pdr) :
    PoolStep seid pool (ueStep seid ueip pool p).2 := by
  -- of the branches of `ueStep` only the one that calls `Pool.alloc` moves the pool
  unfold ueStep
  split
  · exact .refl
  · split
    · split
      · exact .refl
      · rename_i pl
        split
        · exact .refl
        · rename_i a pl' ha
          have := alloc_pool pl seid
          rwa [ha] at this
    · split <;> exact .refl

theorem parsePDR_pool (seid : Nat) (apps : List (String × List String)) (ie : PdrIE) (pool : Option Pool.P) :
    PoolStep seid pool (parsePDR seid apps ie pool).2 := by
  have h1 : PoolStep seid pool (parsePDI1 seid ie pool { fseID := seid }).2 := by
    unfold parsePDI1
    split
    · exact .refl
    · exact ueStep_pool ..
  unfold parsePDR
  split
  · rename_i e pool' he; rwa [he] at h1
  · rename_i p pool' he
    rw [he] at h1
    split <;> exact h1

theorem estPdrs_pool (cfg : Cfg) (lseid ip : Nat) (apps : List (String × List String)) (ies : List PdrIE) (pool : Option Pool.P)
    (g : Teid.G) (acc : List Pdr) : PoolStep lseid pool (estOut (estPdrs cfg lseid ip apps ies pool g acc)).2.1 :=
  (estPdrs_induction cfg lseid ip apps (fun _ pool' _ => PoolStep lseid pool pool')
    (hparse := fun ie _ pool' _ h => h.trans (parsePDR_pool lseid apps ie pool'))
    (hchoose := fun _ _ _ _ _ _ h _ _ _ => h) (hkeep := fun _ _ _ _ h _ => h) ies pool g acc .refl).elim fun _ h => h.2

theorem parsePdrs_pool (seid ip : Nat) (apps : List (String × List String)) :
    ∀ (ies : List PdrIE) (pool : Option Pool.P), PoolStep seid pool (poolOut (parsePdrs seid ip apps ies pool))
  | [], _ => .refl
  | ie :: rest, pool => by
    unfold parsePdrs
    have hp := parsePDR_pool seid apps ie pool
    cases hpp : parsePDR seid apps ie pool with
    | mk res pool' =>
    rw [hpp] at hp
    cases res with
    | error e => exact hp
    | ok p =>
      have ih := hp.trans (parsePdrs_pool seid ip apps rest pool')
      dsimp only
      cases hr : parsePdrs seid ip apps rest pool' with
      | error e => rw [hr] at ih; exact ih
      | ok v => rw [hr] at ih; exact ih

theorem PoolInv.freeAddr (base : List Nat) (pool : Option Pool.P) (lseid : Nat) (h : PoolInv base pool) :
    PoolInv base (freeAddr pool lseid) := by
  cases pool with
  | none => exact h
  | some pl => exact Pool.inv_dealloc base pl lseid h

theorem dealloc_inventory (p : Pool.P) (s : Nat) : (Pool.dealloc p s).2.inv = p.inv.filter (·.1 != s) := by
  unfold Pool.dealloc
  split
  · rename_i h
    unfold Pool.lookup at h
    rw [Option.map_eq_none_iff, List.find?_eq_none] at h
    exact (List.filter_eq_self.mpr fun x hx => by simpa using h x hx).symm
  · rfl

theorem poolKeys_freeAddr (pool : Option Pool.P) (lseid : Nat) : ∀ k ∈ poolKeys (freeAddr pool lseid), k ∈ poolKeys pool ∧ k ≠ lseid := by
  cases pool with
  | none => nofun
  | some pl =>
    simp only [freeAddr, Option.map_some, poolKeys, dealloc_inventory, List.mem_map, List.mem_filter]
    rintro k ⟨x, ⟨hx, hne⟩, rfl⟩
    exact ⟨⟨x, hx, rfl⟩, by simpa using hne⟩

theorem freeAddr_pool (seid : Nat) (pool : Option Pool.P) (lseid : Nat) : PoolStep seid pool (freeAddr pool lseid) :=
  ⟨fun base => PoolInv.freeAddr base pool lseid, fun k hk => .inl (poolKeys_freeAddr pool lseid k hk).1⟩

theorem freeAddr_frees (pl : Pool.P) (lseid : Nat) :
    match freeAddr (some pl) lseid with
    | some pl' => Pool.lookup pl' lseid = none
    | none => False := by
  simp [freeAddr, Pool.lookup, dealloc_inventory, List.find?_filter]

theorem PoolInv.foldl_freeAddr (base : List Nat) : ∀ (ss : List Session) (pool : Option Pool.P), PoolInv base pool →
    PoolInv base (ss.foldl (fun p s => Agent.freeAddr p s.lseid) pool)
  | [], _, h => h
  | s :: rest, pool, h => PoolInv.foldl_freeAddr base rest _ (PoolInv.freeAddr base pool s.lseid h)

theorem poolKeys_foldl_freeAddr : ∀ (ss : List Session) (pool : Option Pool.P),
    ∀ k ∈ poolKeys (ss.foldl (fun p s => freeAddr p s.lseid) pool), k ∈ poolKeys pool ∧ ∀ s ∈ ss, k ≠ s.lseid
  | [], _ => fun _ hk => ⟨hk, nofun⟩
  | s :: rest, pool => fun k hk => by
    obtain ⟨h1, h2⟩ := poolKeys_foldl_freeAddr rest _ k hk
    obtain ⟨h3, h4⟩ := poolKeys_freeAddr pool s.lseid k h1
    exact ⟨h3, List.forall_mem_cons.mpr ⟨h4, h2⟩⟩

theorem establish_pool (cfg : Cfg) (w : World) (a lseid : Nat) (r : EstReq) : PoolStep lseid w.pool (establish cfg w a lseid r).1.pool := by
  have hloop := estPdrs_pool cfg lseid r.cpIP (w.conn a).apps r.pdrs w.pool w.teid []
  rcases establish_cases cfg w a lseid r with h | ⟨_, h⟩ | ⟨fars, s, _, _, h⟩ <;> rw [h]
  · exact .refl
  · exact hloop.trans (freeAddr_pool lseid _ lseid)
  · exact hloop

theorem parseMod_pool (cfg : Cfg) (apps : List (String × List String)) (pool : Option Pool.P) (r : ModReq) :
    PoolStep r.seid pool (parseMod cfg apps pool r).2 := by
  have h1 := parsePdrs_pool r.seid (fseidIPOf r) apps r.createPdrs pool
  rcases parseMod_snd cfg apps pool r with e | ⟨cp, pool1, hc, e⟩ <;> rw [e]
  · exact h1
  · rw [hc] at h1; exact h1.trans (parsePdrs_pool ..)

theorem modify_pool (cfg : Cfg) (w : World) (a : Nat) (r : ModReq) : PoolStep r.seid w.pool (modify cfg w a r).world.pool := by
  cases hfind : (w.conn a).sessions.find? (·.lseid = r.seid) with
  | none => rw [modify_eq_unknown cfg hfind]; exact .refl
  | some s0 => rw [(modify_after_parse cfg hfind).1]; exact parseMod_pool cfg _ w.pool r

end Agent
