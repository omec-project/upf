import Upf.Model.P4
/-! Stand-alone prototype for C16: a builder that looks names up in a two-table P4Info literal as p4rt_translator.go does; C16 itself is proved on the builders of `Up4Build` against the regenerated P4Info, no Props file imports this one. -/

namespace P4

theorem uplink_valid (n3 teid meter : BitVec 32) :
    ∃ e, buildUplinkSession info n3 teid meter = some e ∧ valid info e := by
  -- the builder and the lookups run on the `info` literal: each `rfl` is an evaluation
  refine ⟨_, rfl, _, rfl, ?_, List.mem_cons_self, _, rfl, rfl, ?_, nofun⟩
  · intro m hm
    rcases List.mem_cons.mp hm with rfl | hm
    · exact ⟨_, List.mem_cons_self, rfl, rfl, n3.isLt⟩
    · obtain rfl := List.mem_singleton.mp hm
      exact ⟨_, List.mem_cons_of_mem _ List.mem_cons_self, rfl, rfl, teid.isLt⟩
  · intro pv hpv
    obtain rfl := List.mem_singleton.mp hpv
    exact ⟨_, List.mem_cons_self, rfl, meter.isLt⟩

#print axioms uplink_valid

end P4
