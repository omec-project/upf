import Upf.Proofs.Modify
import Upf.Proofs.Teid
/-!
What the handlers do with the TEID allocator, whatever the request (C05 / C07): only the PDR loop of an establishment takes TEIDs, each
different from everything held (`estPdrs_held`); a session that ends, and a Remove PDR, return exactly the TEIDs the UP chose for the
rules that leave (`freeAll_used_iff`, `freeAll_held`).
-/
namespace Agent

def chosenL (pdrs : List Pdr) : List Nat := (pdrs.filter (·.chooseTeid)).map (·.tunnelTEID)

/-- identifiers that are pairwise different, non-zero and in use in the allocator — and nothing else is in use (no leak). TEID `t`
occupies bit `t - 1`: `Teid.allocate` returns the index it marks plus one, `Teid.free id` clears bit `id - 1`. -/
def Held (l : List Nat) (g : Teid.G) : Prop :=
  l.Nodup ∧ (∀ t ∈ l, 1 ≤ t ∧ g.used (t - 1) = true) ∧ ∀ x, g.used x = true → x + 1 ∈ l

theorem Held.nodup {l : List Nat} {g : Teid.G} (h : Held l g) : l.Nodup := h.1
theorem Held.used {l : List Nat} {g : Teid.G} (h : Held l g) {t : Nat} (ht : t ∈ l) : 1 ≤ t ∧ g.used (t - 1) = true := h.2.1 t ht
theorem Held.mem_of_used {l : List Nat} {g : Teid.G} (h : Held l g) {x : Nat} (hx : g.used x = true) : x + 1 ∈ l := h.2.2 x hx

theorem Held.perm {l l' : List Nat} {g : Teid.G} (h : Held l g) (p : l.Perm l') : Held l' g :=
  ⟨p.nodup_iff.mp h.nodup, fun _ ht => h.used (p.mem_iff.mpr ht), fun _ hx => p.mem_iff.mp (h.mem_of_used hx)⟩

theorem chosenL_cons (p : Pdr) (l : List Pdr) : chosenL (p :: l) = if p.chooseTeid then p.tunnelTEID :: chosenL l else chosenL l := by
  unfold chosenL; by_cases h : p.chooseTeid <;> simp [h]

theorem chosenL_reverse (l : List Pdr) : chosenL l.reverse = (chosenL l).reverse := by
  unfold chosenL; rw [List.filter_reverse, List.map_reverse]

theorem chosenL_append (a b : List Pdr) : chosenL (a ++ b) = chosenL a ++ chosenL b := by
  unfold chosenL; rw [List.filter_append, List.map_append]

theorem chosenL_perm {l l' : List Pdr} (p : l.Perm l') : (chosenL l).Perm (chosenL l') := by
  unfold chosenL; exact List.Perm.map _ (List.Perm.filter _ p)

/-- `MarkSessionQer` only reorders QER lists -/
theorem chosenL_mark (pdrs : List Pdr) (qers : List Qer) : chosenL (markSessionQer pdrs qers).2 = chosenL pdrs := by
  rcases mark_cases pdrs qers with e | ⟨_, _, _, _, _, _, _, _, e⟩ <;> rw [e]
  unfold chosenL
  rw [List.filter_map, List.map_map]
  rfl

theorem Held.alloc {l : List Nat} {g g' : Teid.G} {id : Nat} (h : Held l g) (ho : g.offset < M) (ha : Teid.allocate M g = some (id, g')) :
    g'.offset < M ∧ Held (id :: l) g' := by
  obtain ⟨h0, _, hfree, hused, hsame, ho'⟩ := Teid.alloc_fresh M g id g' ho ha
  have hnot : id ∉ l := fun hm => by rw [(h.used hm).2] at hfree; cases hfree
  refine ⟨ho', List.nodup_cons.mpr ⟨hnot, h.nodup⟩, fun t ht => ?_, fun x hx => ?_⟩
  · rcases List.mem_cons.mp ht with rfl | ht
    · exact ⟨by omega, hused⟩
    · have hne : t ≠ id := fun e => hnot (e ▸ ht)
      exact ⟨(h.used ht).1, by rw [hsame (t - 1) (by have := (h.used ht).1; omega)]; exact (h.used ht).2⟩
  · by_cases hxi : x = id - 1
    · exact (show x + 1 = id by omega) ▸ List.mem_cons_self
    · exact List.mem_cons_of_mem _ (h.mem_of_used (hsame x hxi ▸ hx))

theorem estPdrs_held (cfg : Cfg) (lseid ip : Nat) (apps : List (String × List String)) (ext : List Nat)
    (ies : List PdrIE) (pool : Option Pool.P) (g : Teid.G) (acc : List Pdr) (ho : g.offset < M) (hh : Held (ext ++ chosenL acc) g) :
    (estOut (estPdrs cfg lseid ip apps ies pool g acc)).2.2.offset < M ∧
      Held (ext ++ chosenL (estOut (estPdrs cfg lseid ip apps ies pool g acc)).1) (estOut (estPdrs cfg lseid ip apps ies pool g acc)).2.2 := by
  obtain ⟨acc', he, ho', hh'⟩ := estPdrs_induction cfg lseid ip apps (fun acc _ g => g.offset < M ∧ Held (ext ++ chosenL acc) g)
    (hparse := fun _ _ _ _ h => h)
    (hchoose := fun p' acc _ g id g' h ha hc hid => by
      obtain ⟨ho', hh'⟩ := h.2.alloc h.1 ha
      rw [chosenL_cons, if_pos hc, hid]
      exact ⟨ho', hh'.perm List.perm_middle.symm⟩)
    (hkeep := fun p acc _ g h hc => by rw [chosenL_cons, hc]; exact h) ies pool g acc ⟨ho, hh⟩
  rw [he, chosenL_reverse]
  exact ⟨ho', hh'.perm (List.Perm.append_left _ (List.reverse_perm _).symm)⟩

theorem free_used_iff (g : Teid.G) (id x : Nat) :
    (Teid.free g id).used x = true ↔ g.used x = true ∧ ¬ (1 ≤ id ∧ x = id - 1) := by
  unfold Teid.free
  split
  · exact ⟨fun h => ⟨h, fun h' => by omega⟩, fun h => h.1⟩
  · by_cases hx : x = id - 1 <;> simp [hx] <;> omega

theorem freeAll_cons (p : Pdr) (l : List Pdr) (g : Teid.G) :
    freeAll (p :: l) g = freeAll l (if p.chooseTeid then Teid.free g p.tunnelTEID else g) := rfl

theorem freeAll_used_iff : ∀ (ps : List Pdr) (g : Teid.G) (x : Nat),
    (freeAll ps g).used x = true ↔ g.used x = true ∧ ∀ p ∈ ps, p.chooseTeid = true → 1 ≤ p.tunnelTEID → x ≠ p.tunnelTEID - 1
  | [], _, _ => by simp [freeAll]
  | p :: rest, g, x => by
    rw [freeAll_cons, freeAll_used_iff rest, List.forall_mem_cons]
    split
    · next hc =>
      rw [free_used_iff]
      exact ⟨fun ⟨⟨h1, h2⟩, h3⟩ => ⟨h1, fun _ h4 h5 => h2 ⟨h4, h5⟩, h3⟩, fun ⟨h1, h2, h3⟩ => ⟨⟨h1, fun ⟨h4, h5⟩ => h2 hc h4 h5⟩, h3⟩⟩
    · next hc => exact and_congr_right fun _ => ⟨fun h => ⟨fun h' => absurd h' hc, h⟩, fun h => h.2⟩

theorem freeAll_offset : ∀ (ps : List Pdr) (g : Teid.G), (freeAll ps g).offset = g.offset
  | [], _ => rfl
  | p :: rest, g => by
    rw [freeAll_cons, freeAll_offset rest]
    split
    · exact Teid.free_offset g _
    · rfl

theorem freeAll_held (ext : List Nat) (pdrs : List Pdr) (g : Teid.G) (h : Held (ext ++ chosenL pdrs) g) :
    Held ext (freeAll pdrs g) := by
  obtain ⟨hnd, hin, hout⟩ := h
  obtain ⟨hext, _, hdisj⟩ := List.nodup_append.mp hnd
  refine ⟨hext, fun t ht => ?_, fun x hx => ?_⟩
  · have ht' := hin t (List.mem_append_left _ ht)
    refine ⟨ht'.1, (freeAll_used_iff pdrs g _).mpr ⟨ht'.2, fun p hp hc h1 e => ?_⟩⟩
    exact hdisj t ht _ (List.mem_map.mpr ⟨p, List.mem_filter.mpr ⟨hp, hc⟩, rfl⟩) (by omega)
  · obtain ⟨hu, hfree⟩ := (freeAll_used_iff pdrs g x).mp hx
    refine (List.mem_append.mp (hout x hu)).resolve_right fun hc => ?_
    obtain ⟨p, hp, hpx⟩ := List.mem_map.mp hc
    exact hfree p (List.mem_filter.mp hp).1 (List.mem_filter.mp hp).2 (by omega) (by omega)

/-- also for a Create PDR or Update PDR whose F-TEID has the CHOOSE flag; the handler can only return TEIDs (those of removed PDRs,
when the request is accepted) -/
theorem modify_allocates_no_teid (cfg : Cfg) (w : World) (a : Nat) (r : ModReq) :
    (∀ x, (modify cfg w a r).world.teid.used x = true → w.teid.used x = true) ∧
    (modify cfg w a r).world.teid.offset = w.teid.offset := by
  rcases modify_world cfg w a r with ⟨_, _, _, e⟩ | ⟨_, _, x, _, _, _, e⟩ <;> rw [e]
  · exact ⟨fun _ h => h, rfl⟩
  · exact ⟨fun x h => ((freeAll_used_iff _ _ x).mp h).1, freeAll_offset _ _⟩

end Agent
