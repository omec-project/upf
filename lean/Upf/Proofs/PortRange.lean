import Upf.Model.PortRange
import Upf.Proofs.Tern
/-! C17: `asTrivialTernaryMatch` and `asComplexTernaryMatches` of pfcpiface/parse_pdr.go, accepted conversions match exactly the denoted ports. -/

namespace Tern

theorem exists_mem_map {α β} {f : α → β} {l : List α} {P : β → Prop} :
    (∃ b ∈ l.map f, P b) ↔ ∃ a ∈ l, P (f a) :=
  ⟨fun ⟨_, hb, hp⟩ => let ⟨a, ha, e⟩ := List.mem_map.mp hb; ⟨a, ha, e ▸ hp⟩,
   fun ⟨_, ha, hp⟩ => ⟨_, List.mem_map_of_mem ha, hp⟩⟩

theorem matches_full (v p : U16) : (Rule.matches ⟨v, 0xFFFF#16⟩ p) ↔ p = v := by
  rw [Rule.matches, show (0xFFFF#16 : U16) = BitVec.allOnes 16 from rfl, BitVec.and_allOnes, BitVec.and_allOnes]

theorem PR.isExact.not_wildcard {pr : PR} (he : pr.isExact) : ¬ pr.isWildcard := by
  rintro (⟨a, b⟩ | ⟨_, b⟩)
  · exact absurd (a ▸ b ▸ he.1) (by decide)
  · exact he.2 b

theorem denotes_exact {pr : PR} (he : pr.isExact) (p : U16) : pr.denotes p ↔ p = pr.low := by
  rw [PR.denotes, or_iff_right he.not_wildcard, ← he.1, ← BitVec.toNat_inj]
  omega

theorem trivial_cover (pr : PR) (r : Rule) (h : asTrivial pr = some r) (p : U16) :
    r.matches p ↔ pr.denotes p := by
  unfold asTrivial at h
  split at h
  · cases h; exact iff_of_true (matches_of_mask_zero rfl _) (Or.inl ‹_›)
  · split at h
    · cases h; rw [matches_full, denotes_exact ‹_›]
    · cases h

theorem exact_rules_cover (pr : PR) (p : U16) :
    (∃ r ∈ exactRules pr, r.matches p) ↔ (pr.low.toNat ≤ p.toNat ∧ p.toNat ≤ pr.high.toNat) := by
  have len (n : Nat) : (pr.low.toNat ≤ n ∧ n < pr.low.toNat + (pr.high.toNat + 1 - pr.low.toNat)) ↔
      (pr.low.toNat ≤ n ∧ n ≤ pr.high.toNat) := by omega
  simp only [exactRules, exists_mem_map, List.mem_range'_1, matches_full, len]
  constructor
  · rintro ⟨n, hn, rfl⟩
    rwa [BitVec.toNat_ofNat, Nat.mod_eq_of_lt (Nat.lt_of_le_of_lt hn.2 pr.high.isLt)]
  · exact fun h => ⟨p.toNat, h, (BitVec.ofNat_toNat 16 p).symm⟩

theorem exactRules_mask (pr : PR) (r : Rule) (h : r ∈ exactRules pr) : r.mask = 0xFFFF#16 := by
  obtain ⟨n, _, rfl⟩ := List.mem_map.mp h
  rfl

theorem asComplex_of_not_range (s : Strategy) {pr : PR} (h : ¬ pr.isRange) :
    asComplex s pr = (asTrivial pr).map ([·]) := by
  unfold asComplex asTrivial
  by_cases he : pr.isExact
  · simp [he, he.not_wildcard]
  · simp [he, Decidable.not_not.mp fun hw => h ⟨he, hw⟩]

theorem complex_cover (s : Strategy) (pr : PR) (rs : List Rule) (h : asComplex s pr = some rs) (p : U16) :
    (∃ r ∈ rs, r.matches p) ↔ pr.denotes p := by
  by_cases hr : pr.isRange
  · rw [PR.denotes, or_iff_right hr.2]
    cases s <;> simp only [asComplex, hr.1, hr.2, if_false, Option.ite_none_left_eq_some, Option.some.injEq] at h
    · obtain ⟨_, rfl⟩ := h
      exact exact_rules_cover pr p
    · subst h
      exact ternary_cover pr.low pr.high p
  · rw [asComplex_of_not_range s hr] at h
    obtain ⟨r, h1, rfl⟩ := Option.map_eq_some_iff.mp h
    simp only [List.mem_singleton, exists_eq_left, trivial_cover pr r h1 p]

#print axioms complex_cover

theorem asTrivial_eq_none_iff (pr : PR) : asTrivial pr = none ↔ pr.isRange := by
  unfold asTrivial PR.isRange
  by_cases hw : pr.isWildcard <;> by_cases he : pr.isExact <;> simp [hw, he]

theorem asComplex_exact_eq_none_iff (pr : PR) : asComplex .exact pr = none ↔ (pr.isRange ∧ pr.width > 100#16) := by
  unfold asComplex PR.isRange
  by_cases hw : pr.isWildcard <;> by_cases he : pr.isExact <;> simp [hw, he]

/-- C17: a rule with mask 0 matches every port, so by `complex_cover` every port is denoted; ports 0 and
65535 then force the range to be a wildcard. -/
theorem complex_wildcard_only_full (s : Strategy) (pr : PR) (rs : List Rule) (h : asComplex s pr = some rs)
    (r : Rule) (hr : r ∈ rs) (hm : r.mask = 0#16) : pr.isWildcard := by
  have all (p : U16) : pr.denotes p := (complex_cover s pr rs h p).mp ⟨r, hr, matches_of_mask_zero hm p⟩
  rcases all 0#16 with hw | ⟨h0, _⟩
  · exact hw
  rcases all 0xFFFF#16 with hw | ⟨_, h1⟩
  · exact hw
  exact Or.inl (full_of_ends h0 h1)

end Tern
