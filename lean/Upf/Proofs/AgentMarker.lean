import Upf.Model.AgentMod
import Upf.Proofs.FindMap
/-! The Update FAR loop `updFars` as a fold of `stepFar`; `ModFar` reads the stored list and the sent rules off this form (C03).
C14: one marker per flagged update of a known FAR, built from the FAR stored before the message, in message order, given distinct
FAR IDs within the message. -/
namespace Agent

def replaceFar (st : List Far) (f : Far) : List Far := st.map fun q => if q.farID = f.farID then f else q

def stepFar (acc : List Far × List Far × List Marker) (f : Far) : List Far × List Far × List Marker :=
  match acc.1.find? (·.farID = f.farID) with
  | none => acc
  | some old => (replaceFar acc.1 f, acc.2.1 ++ [f], if f.sendEndMarker then acc.2.2 ++ [markerOf old] else acc.2.2)

theorem updFars_eq (stored ups : List Far) : updFars stored ups = ups.foldl stepFar (stored, [], []) := by
  unfold updFars
  congr 1

theorem foldl_stepFar_markers (stored : List Far) : ∀ (ups : List Far) (st sent : List Far) (ms : List Marker),
    (ups.map (·.farID)).Nodup →
    (∀ f ∈ ups, st.find? (·.farID = f.farID) = stored.find? (·.farID = f.farID)) →
    (ups.foldl stepFar (st, sent, ms)).2.2 =
      ms ++ ups.filterMap fun f => if f.sendEndMarker then (stored.find? (·.farID = f.farID)).map markerOf else none := by
  intro ups
  induction ups with
  | nil => intro st sent ms _ _; simp
  | cons f fs ih =>
    intro st sent ms hnd hst
    have hnd' : (fs.map (·.farID)).Nodup := (List.nodup_cons.mp hnd).2
    have hnot : ∀ g ∈ fs, f.farID ≠ g.farID := by
      intro g hg e
      exact (List.nodup_cons.mp hnd).1 (List.mem_map.mpr ⟨g, hg, e.symm⟩)
    have hf := hst f List.mem_cons_self
    simp only [List.foldl_cons]
    cases hfind : st.find? (·.farID = f.farID) with
    | none =>
      have hs : stepFar (st, sent, ms) f = (st, sent, ms) := by simp [stepFar, hfind]
      rw [hs, ih st sent ms hnd' (fun g hg => hst g (List.mem_cons_of_mem _ hg))]
      rw [hfind] at hf
      simp [← hf]
    | some old =>
      have hs : stepFar (st, sent, ms) f =
          (replaceFar st f, sent ++ [f], if f.sendEndMarker then ms ++ [markerOf old] else ms) := by simp [stepFar, hfind]
      rw [hs, ih _ _ _ hnd' (fun g hg => by
        rw [replaceFar, find?_replace_key_ne (·.farID) f.farID g.farID f rfl (Ne.symm (hnot g hg))]; exact hst g (List.mem_cons_of_mem _ hg))]
      rw [hfind] at hf
      by_cases hm : f.sendEndMarker
      · simp [← hf, hm]
      · simp [hm]

end Agent
