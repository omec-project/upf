import Upf.Proofs.Up4Basic
/-!
`start` (`SetUpfInfo` and the first `tryConnect` of up4.go): what a batch of DELETEs and a batch of INSERTs do to the switch, and
the state `start` leaves (`start_st`). The restart clause of C04 and the start cases of the C15 / C16 invariants read it off.
-/
namespace Up4

theorem apply_delete (s : Srv) (d : Entry) :
    (s.apply ⟨.delete, .tbl d⟩).1.entries = s.entries.filter (fun x => !(x.key == d.key)) := by
  unfold Srv.apply
  dsimp only
  split
  · rfl
  · rename_i hh
    refine (List.filter_eq_self.mpr fun x hx => ?_).symm
    cases h : (x.key == d.key) with
    | false => rfl
    | true => exact absurd (List.any_eq_true.mpr ⟨x, hx, h⟩) hh

theorem batch_deletes : ∀ (es : List Entry) (s : Srv) (j : Nat),
    (s.batch .none (es.map fun e => (⟨.delete, .tbl e⟩ : Upd)) j).1.entries =
      s.entries.filter fun x => !(es.any fun d => x.key == d.key)
  | [], s, j => (List.filter_eq_self.mpr (fun _ _ => rfl)).symm
  | d :: rest, s, j => by
    simp only [List.map_cons, Srv.batch]
    rw [batch_deletes rest, apply_delete, List.filter_filter]
    congr 1
    funext x
    simp only [List.any_cons, Bool.not_or, Bool.and_comm]

theorem write_deletes (c : Ctx) (hn : nextInj c = .none) (es : List Entry) :
    (write c (es.map fun e => (⟨.delete, .tbl e⟩ : Upd))).1.st.srv.entries =
      c.st.srv.entries.filter fun x => !(es.any fun d => x.key == d.key) := by
  unfold write
  simp only [hn, reduceCtorEq, if_false]
  exact batch_deletes es c.st.srv 0

theorem batch_inserts_mem (inj : Inj) (y : Entry) : ∀ (es : List Entry) (s : Srv) (j : Nat),
    y ∈ (s.batch inj (es.map fun e => (⟨.insert, .tbl e⟩ : Upd)) j).1.entries → y ∈ s.entries ∨ y ∈ es
  | [], _, _, h => Or.inl h
  | x :: rest, s, j, h => by
    simp only [List.map_cons, Srv.batch] at h
    rcases batch_inserts_mem inj y rest _ _ h with h1 | h1
    · suffices y ∈ s.entries ∨ y = x from this.imp_right fun (e : y = x) => e ▸ List.mem_cons_self
      have happ : y ∈ (s.apply ⟨.insert, .tbl x⟩).1.entries → y ∈ s.entries ∨ y = x := fun hy => by
        unfold Srv.apply at hy
        dsimp only at hy
        split at hy
        · exact Or.inl hy
        · simpa using hy
      -- the update is refused (the switch is as it was) or applied
      split at h1
      · split at h1
        · exact Or.inl h1
        · exact happ h1
      · exact happ h1
    · exact Or.inr (List.mem_cons_of_mem _ h1)

theorem write_inserts_mem (c : Ctx) (es : List Entry) (y : Entry)
    (h : y ∈ (write c (es.map fun e => (⟨.insert, .tbl e⟩ : Upd))).1.st.srv.entries) : y ∈ c.st.srv.entries ∨ y ∈ es := by
  unfold write at h
  by_cases hr : nextInj c = .rpc
  · rw [if_pos hr] at h; exact Or.inl h
  · rw [if_neg hr] at h; exact batch_inserts_mem _ y es _ _ h

/-- the pools `start` creates are 1 … 1023 -/
theorem meter_cells : arrSize info.meters Gen.P4Constants.MeterPreQosPipeAppMeter = 1024 ∧
    arrSize info.meters Gen.P4Constants.MeterPreQosPipeSessionMeter = 1024 := by decide

/-- the bookkeeping `SetUpfInfo` creates -/
abbrev startSt (srv : Srv) : St :=
  { peerPool := (List.range Gen.Consts.maxGTPTunnelPeerIDs).map (· + 2),
    appPool := (List.range Gen.Consts.maxApplicationIDs).map (· + 1), srv := srv }

/-- first case: clearing the tables failed and the three cell pools are not created -/
theorem start_st (cfg : Cfg4) (srv : Srv) (injs : List Inj) :
    ∃ srv',
      ((start cfg srv injs).1.st = startSt srv' ∨
        (start cfg srv injs).1.st = { startSt srv' with
          ctrFree := List.range (ctrCells cfg), appFree := (List.range 1023).map (· + 1), sessFree := (List.range 1023).map (· + 1) }) ∧
      ∀ e ∈ srv'.entries,
        e ∈ (write { st := startSt srv, injs := injs }
              ((clearedTables.flatMap fun t => srv.entries.filter (·.table == t)).map fun e => ⟨.delete, .tbl e⟩)).1.st.srv.entries ∨
        buildInterface cfg.uePool.1 cfg.uePool.2 cfg.sliceID true = some e ∨
        buildInterface cfg.accessIP cfg.accessLen cfg.sliceID false = some e := by
  unfold start
  dsimp only
  rw [meter_cells.1, meter_cells.2, ← List.map_flatMap]
  generalize (List.map _ _ : List Upd) = dels
  split
  · exact ⟨_, Or.inl (write_st ..), fun e he => Or.inl he⟩
  · split
    · rename_i ue n3 hue hn3
      refine ⟨_, Or.inr (by rw [write_st, write_st]), fun e he => ?_⟩
      rcases write_inserts_mem _ [ue, n3] e he with h | h
      · exact Or.inl h
      · simp only [List.mem_cons, List.not_mem_nil, or_false] at h
        rcases h with rfl | rfl
        · exact Or.inr (Or.inl hue)
        · exact Or.inr (Or.inr hn3)
    · exact ⟨_, Or.inr (by rw [write_st]), fun e he => Or.inl he⟩

end Up4
