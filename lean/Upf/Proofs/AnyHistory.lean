import Upf.Proofs.AgentPool
import Upf.Proofs.AgentTeid
/-! Histories of arbitrary requests (no envelope): what holds of the agent model after any sequence of association setups, PFD
updates, establishments, modifications (any mix of IEs), deletions, reports and association endings. -/
namespace Agent

inductive Req
  | assoc (a : Nat) (node : String)
  | pfd (a : Nat) (apps : List (String × List String)) (ok : Bool)
  | est (a lseid : Nat) (r : EstReq)
  | mod (a : Nat) (r : ModReq)
  | del (a seid : Nat)
  | report (a seid : Nat)
  | shutdown (a : Nat)

def stepReq (cfg : Cfg) (w : World) : Req → World
  | .assoc a node => assocSetup w a node
  | .pfd a apps ok => pfdManagement w a apps ok
  | .est a lseid r => (establish cfg w a lseid r).1
  | .mod a r => (modify cfg w a r).world
  | .del a seid => (deleteSession cfg w a seid).1
  | .report a seid => reportContextNotFound cfg w a seid
  | .shutdown a => shutdownConn cfg w a

def Req.by : Req → Nat
  | .assoc a _ => a | .pfd a _ _ => a | .est a _ _ => a | .mod a _ => a | .del a _ => a | .report a _ => a | .shutdown a => a

/-- a request that can make a session hold a UE address: an establishment or a modification -/
def Req.mayAllocate : Req → Bool
  | .est _ _ _ => true
  | .mod _ _ => true
  | _ => false

def Req.isEst : Req → Bool
  | .est _ _ _ => true
  | _ => false

theorem stepReq_del (cfg : Cfg) (w : World) (a seid : Nat) : stepReq cfg w (.del a seid) = stepReq cfg w (.report a seid) :=
  deleteSession_world cfg w a seid

def Req.dropped (w : World) : Req → List Session
  | .del a seid => ((w.conn a).sessions.find? (·.lseid = seid)).toList
  | .report a seid => ((w.conn a).sessions.find? (·.lseid = seid)).toList
  | .shutdown a => (w.conn a).sessions
  | _ => []

theorem stepReq_drops (cfg : Cfg) (w : World) (q : Req) (hq : q.mayAllocate = false) :
    stepReq cfg w q =
      { conns := (stepReq cfg w q).conns, tables := (q.dropped w).foldl (fun t s => sendDel cfg t s.pdrs s.fars s.qers) w.tables,
        teid := freeAll ((q.dropped w).flatMap (·.pdrs)) w.teid, pool := (q.dropped w).foldl (fun p s => freeAddr p s.lseid) w.pool } := by
  cases q with
  | assoc a node => rw [stepReq, assocSetup_eq]; rfl
  | pfd a apps ok =>
    cases ok
    · rw [stepReq, pfdManagement_false]; rfl
    · rw [stepReq, pfdManagement_true]; rfl
  | est a lseid r => cases hq
  | mod a r => cases hq
  | del a seid | report a seid =>
    try rw [stepReq_del]
    rw [stepReq, reportContextNotFound_eq]
    cases h : (w.conn a).sessions.find? (·.lseid = seid) with
    | none => simp only [Req.dropped, h]; rfl
    | some s => simp only [Req.dropped, h, Option.toList, List.flatMap_cons, List.flatMap_nil, List.append_nil]; rfl
  | shutdown a => rw [stepReq, shutdownConn_eq]; rfl

/-- each way a session ends returns what the session holds, in every state (no envelope) -/
theorem ended_sessions_return (cfg : Cfg) (w : World) (q : Req) (hq : q.mayAllocate = false) (s : Session) (hs : s ∈ q.dropped w) :
    s.lseid ∉ poolKeys (stepReq cfg w q).pool ∧
    ∀ p ∈ s.pdrs, p.chooseTeid = true → 1 ≤ p.tunnelTEID → (stepReq cfg w q).teid.used (p.tunnelTEID - 1) = false := by
  rw [stepReq_drops cfg w q hq]
  refine ⟨fun hk => (poolKeys_foldl_freeAddr _ w.pool _ hk).2 s hs rfl, fun p hp hc h1 => Bool.eq_false_iff.mpr fun hu => ?_⟩
  exact ((freeAll_used_iff _ _ _).mp hu).2 p (List.mem_flatMap.mpr ⟨s, hs, hp⟩) hc h1 rfl

theorem deletion_returns_address_and_teids (cfg : Cfg) (w : World) (a seid : Nat) (s : Session)
    (hf : (w.conn a).sessions.find? (·.lseid = seid) = some s) :
    s.lseid ∉ poolKeys (deleteSession cfg w a seid).1.pool ∧
    ∀ p ∈ s.pdrs, p.chooseTeid = true → 1 ≤ p.tunnelTEID → (deleteSession cfg w a seid).1.teid.used (p.tunnelTEID - 1) = false :=
  ended_sessions_return cfg w (.del a seid) rfl s (by simp [Req.dropped, hf])

theorem report_returns_address_and_teids (cfg : Cfg) (w : World) (a seid : Nat) (s : Session)
    (hf : (w.conn a).sessions.find? (·.lseid = seid) = some s) :
    s.lseid ∉ poolKeys (reportContextNotFound cfg w a seid).pool ∧
    ∀ p ∈ s.pdrs, p.chooseTeid = true → 1 ≤ p.tunnelTEID → (reportContextNotFound cfg w a seid).teid.used (p.tunnelTEID - 1) = false :=
  ended_sessions_return cfg w (.report a seid) rfl s (by simp [Req.dropped, hf])

/-- an association's ending (release, read timeout, heartbeat failure, stop) returns what every one of its sessions holds -/
theorem shutdown_returns_addresses_and_teids (cfg : Cfg) (w : World) (a : Nat) (s : Session) (hs : s ∈ (w.conn a).sessions) :
    s.lseid ∉ poolKeys (shutdownConn cfg w a).pool ∧
    ∀ p ∈ s.pdrs, p.chooseTeid = true → 1 ≤ p.tunnelTEID → (shutdownConn cfg w a).teid.used (p.tunnelTEID - 1) = false :=
  ended_sessions_return cfg w (.shutdown a) rfl s hs

theorem stepReq_poolInv (base : List Nat) (cfg : Cfg) (w : World) (q : Req) (h : PoolInv base w.pool) :
    PoolInv base (stepReq cfg w q).pool := by
  cases hq : q.mayAllocate with
  | false => rw [stepReq_drops cfg w q hq]; exact PoolInv.foldl_freeAddr base _ w.pool h
  | true =>
    cases q with
    | est a lseid r => exact (establish_pool cfg w a lseid r).inv base h
    | mod a r => exact (modify_pool cfg w a r).inv base h
    | _ => cases hq

/-- the UE address pool's invariant survives EVERY sequence of requests, with no assumption on them -/
theorem pool_any_history (base : List Nat) (cfg : Cfg) : ∀ (qs : List Req) (w : World), PoolInv base w.pool →
    PoolInv base (qs.foldl (stepReq cfg) w).pool
  | qs, _, h => List.foldlRecOn qs _ (motive := fun w => PoolInv base w.pool) h fun w hw q _ => stepReq_poolInv base cfg w q hw

theorem reportContextNotFound_conn (cfg : Cfg) (w : World) (a a' seid : Nat) : (reportContextNotFound cfg w a seid).conn a' =
    if a' = a ∧ ((w.conn a).sessions.find? (·.lseid = seid)).isSome then
      { w.conn a with sessions := (w.conn a).sessions.filter (·.lseid ≠ seid) } else w.conn a' := by
  rw [reportContextNotFound_eq]
  cases (w.conn a).sessions.find? (·.lseid = seid) with
  | none => simp
  | some s =>
    refine (connOf_setL_eq ..).trans ?_
    simp [conn_eq]

theorem stepReq_local (cfg : Cfg) (w : World) (q : Req) (a' : Nat) (h : a' ≠ q.by) : (stepReq cfg w q).conn a' = w.conn a' := by
  cases q with
  | assoc a node => rw [stepReq, assocSetup_eq]; exact connOf_setL_ne _ _ _ h
  | pfd a apps ok =>
    cases ok
    · rw [stepReq, pfdManagement_false]
    · rw [stepReq, pfdManagement_true]; exact connOf_setL_ne _ _ _ h
  | est a lseid r =>
    rw [stepReq]
    rcases establish_cases cfg w a lseid r with e | ⟨_, e⟩ | ⟨_, _, _, _, e⟩
    · rw [e]
    · rw [e]; rfl
    · rw [e]; exact connOf_setL_ne _ _ _ h
  | mod a r =>
    rw [stepReq]
    rcases modify_world cfg w a r with ⟨_, _, _, e⟩ | ⟨_, _, _, _, _, _, e⟩
    · rw [e]; rfl
    · rw [e]; exact connOf_setL_ne _ _ _ h
  | del a seid => rw [stepReq_del]; exact (reportContextNotFound_conn ..).trans (if_neg fun h' => h h'.1)
  | report a seid => exact (reportContextNotFound_conn ..).trans (if_neg fun h' => h h'.1)
  | shutdown a => rw [stepReq, shutdownConn_eq]; exact connOf_filter_ne _ a a' h

/-- whatever the OTHER associations send, in any number and order, and however they end: the record of association `a'` —
node ID, PFD table, every stored session with all its rules — is what it was -/
theorem foreign_history_keeps_record (cfg : Cfg) (a' : Nat) : ∀ (qs : List Req) (w : World), (∀ q ∈ qs, a' ≠ q.by) →
    (qs.foldl (stepReq cfg) w).conn a' = w.conn a'
  | qs, w, h => List.foldlRecOn qs _ (motive := fun w' => w'.conn a' = w.conn a') rfl fun w' hw q hq =>
    (stepReq_local cfg w' q a' (h q hq)).trans hw

/-- a session with SEID `l` is stored for association `a` -/
def Known (w : World) (a l : Nat) : Prop := ((w.conn a).sessions.find? (·.lseid = l)).isSome = true

/-- requests that end the session `l` of association `a` -/
def Req.ends (a l : Nat) : Req → Bool
  | .del a' s => a' = a ∧ s = l
  | .report a' s => a' = a ∧ s = l
  | .shutdown a' => a' = a
  | _ => false

theorem reportContextNotFound_known (cfg : Cfg) (w : World) (a l seid : Nat) (hne : seid ≠ l) (x : Session) (hx : x ∈ (w.conn a).sessions)
    (hl : x.lseid = l) : ∃ y ∈ ((reportContextNotFound cfg w a seid).conn a).sessions, y.lseid = l := by
  rw [reportContextNotFound_conn]
  split
  · exact ⟨x, List.mem_filter.mpr ⟨hx, by simpa [hl] using fun e => hne e.symm⟩, hl⟩
  · exact ⟨x, hx, hl⟩

theorem stepReq_known (cfg : Cfg) (w : World) (a l : Nat) (q : Req) (hq : q.ends a l = false) (h : Known w a l) :
    Known (stepReq cfg w q) a l := by
  by_cases hby : a = q.by
  case neg => unfold Known; rw [stepReq_local cfg w q a hby]; exact h
  unfold Known at h ⊢
  obtain ⟨x, hx, hl⟩ := (isSome_find?_key Session.lseid l _).mp h
  refine (isSome_find?_key Session.lseid l _).mpr ?_
  -- the record is rewritten, its sessions stay
  have same : ∀ c : Conn, c.sessions = (w.conn a).sessions → ∃ y ∈ (connOf (setL w.conns a c) a).sessions, y.lseid = l :=
    fun c hc => ⟨x, by rw [connOf_setL, hc]; exact hx, hl⟩
  cases q with
  | assoc a' node =>
    obtain rfl : a = a' := hby
    rw [stepReq, assocSetup_eq]; exact same _ rfl
  | pfd a' apps ok =>
    obtain rfl : a = a' := hby
    cases ok
    · rw [stepReq, pfdManagement_false]; exact ⟨x, hx, hl⟩
    · rw [stepReq, pfdManagement_true]; exact same _ rfl
  | est a' lseid r =>
    obtain rfl : a = a' := hby
    rw [stepReq]
    rcases establish_cases cfg w a lseid r with e | ⟨_, e⟩ | ⟨_, _, _, _, e⟩ <;> rw [e]
    · exact ⟨x, hx, hl⟩
    · exact ⟨x, hx, hl⟩
    · rw [World.conn_setL]; exact ⟨x, List.mem_append_left _ hx, hl⟩
  | mod a' r =>
    obtain rfl : a = a' := hby
    rw [stepReq]
    rcases modify_world cfg w a r with ⟨_, _, _, e⟩ | ⟨_, s0, y, _, _, hf, e⟩ <;> rw [e]
    · exact ⟨x, hx, hl⟩
    · have hs0 : s0.lseid = r.seid := key_of_find? hf
      rw [conn_eq, connOf_putSession]
      by_cases hxl : x.lseid = r.seid
      · exact ⟨_, List.mem_map.mpr ⟨x, hx, if_pos hxl⟩, hs0.trans (hxl.symm.trans hl)⟩
      · exact ⟨x, List.mem_map.mpr ⟨x, hx, if_neg hxl⟩, hl⟩
  | del a' seid =>
    obtain rfl : a = a' := hby
    rw [stepReq_del]
    exact reportContextNotFound_known cfg w a l seid (by intro e; simp [Req.ends, e] at hq) x hx hl
  | report a' seid =>
    obtain rfl : a = a' := hby
    exact reportContextNotFound_known cfg w a l seid (by intro e; simp [Req.ends, e] at hq) x hx hl
  | shutdown a' => obtain rfl : a = a' := hby; simp [Req.ends] at hq

end Agent
