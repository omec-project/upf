import Upf.Model.Pending
/-! The pending-request table as the association's reader sees it (C01, C12): with both regenerated facts every entry of
a served association has its requester waiting (`Inv`), so delivering a response cannot block. -/
namespace Pending

theorem step_ok (s : St) (e : Ev) (h : Inv s) : Inv (step true true s e).1 ∧ (step true true s e).2 ≠ .blocked := by
  fun_cases step true true s e
  case case2 | case3 | case4 | case7 =>  -- originate, response without a reader; response to an unknown number; giveUp
    -- without a reader
    exact ⟨h, nofun⟩
  case case1 hs =>  -- originate
    exact ⟨fun _ x hx => (List.mem_cons.mp hx).elim (· ▸ rfl) fun hx => h hs x (List.mem_filter.mp hx).1, nofun⟩
  case case5 hs _ _ =>  -- response delivered, entry deleted
    exact ⟨fun _ x hx => h (by simpa using hs) x (List.mem_filter.mp hx).1, nofun⟩
  case case6 hs _ hf =>  -- response for an entry nobody waits on: there is none, every entry has its requester
    exact absurd (h (by simpa using hs) _ (List.mem_of_find?_eq_some hf)) nofun
  case case8 =>  -- giveUp: the reader is gone afterwards
    exact ⟨nofun, nofun⟩

theorem inv_step (s : St) (e : Ev) (h : Inv s) : Inv (step true true s e).1 := (step_ok s e h).1

/-- with both facts, the reader never blocks on a response, whatever arrives (late, duplicated, wrong sequence number) -/
theorem never_blocks (s : St) (e : Ev) (h : Inv s) : (step true true s e).2 ≠ .blocked := (step_ok s e h).2

def run (s : St) (es : List Ev) : St := es.foldl (fun s e => (step true true s e).1) s

theorem inv_run (es : List Ev) : ∀ s, Inv s → Inv (run s es) := by
  induction es with
  | nil => intro s h; exact h
  | cons e es ih => intro s h; exact ih _ (inv_step s e h)

theorem reader_never_blocks (es : List Ev) (e : Ev) : (step true true (run {} es) e).2 ≠ .blocked :=
  never_blocks _ e (inv_run es {} fun _ _ hx => nomatch hx)

end Pending
