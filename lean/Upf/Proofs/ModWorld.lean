import Upf.Proofs.AgentPool
/-!
The world a Session Modification leaves, in closed form, for requests without Update PDR / Update QER IEs (the class the history
theorems cover: `FarOnly`, `RemOnly`, `AddOnly` and their mix) on a session whose session-QER marking is stable.
-/
namespace Agent

/-- a Session Modification that carries Update FAR IEs only (and possibly a CP F-SEID) -/
def FarOnly (r : ModReq) : Prop :=
  r.createPdrs = [] ∧ r.createFars = [] ∧ r.createQers = [] ∧ r.updatePdrs = [] ∧ r.updateQers = [] ∧
  r.removePdrs = [] ∧ r.removeFars = [] ∧ r.removeQers = []

/-- a Session Modification that carries Remove PDR / FAR / QER IEs only (and possibly a CP F-SEID) -/
def RemOnly (r : ModReq) : Prop :=
  r.createPdrs = [] ∧ r.createFars = [] ∧ r.createQers = [] ∧ r.updatePdrs = [] ∧ r.updateFars = [] ∧ r.updateQers = []

/-- a Session Modification that carries Create PDR / FAR / QER IEs only (and possibly a CP F-SEID) -/
def AddOnly (r : ModReq) : Prop :=
  r.updatePdrs = [] ∧ r.updateFars = [] ∧ r.updateQers = [] ∧ r.removePdrs = [] ∧ r.removeFars = [] ∧ r.removeQers = []

section
variable {r : ModReq}

theorem FarOnly.noCreate (h : FarOnly r) : r.createPdrs = [] ∧ r.createFars = [] ∧ r.createQers = [] := ⟨h.1, h.2.1, h.2.2.1⟩
theorem FarOnly.noUpd (h : FarOnly r) : r.updatePdrs = [] ∧ r.updateQers = [] := ⟨h.2.2.2.1, h.2.2.2.2.1⟩
theorem RemOnly.noCreate (h : RemOnly r) : r.createPdrs = [] ∧ r.createFars = [] ∧ r.createQers = [] := ⟨h.1, h.2.1, h.2.2.1⟩
theorem RemOnly.noUpd (h : RemOnly r) : r.updatePdrs = [] ∧ r.updateQers = [] := ⟨h.2.2.2.1, h.2.2.2.2.2⟩
theorem RemOnly.noFarUpd (h : RemOnly r) : r.updateFars = [] := h.2.2.2.2.1
theorem AddOnly.noUpd (h : AddOnly r) : r.updatePdrs = [] ∧ r.updateQers = [] := ⟨h.1, h.2.2.1⟩
theorem AddOnly.noFarUpd (h : AddOnly r) : r.updateFars = [] := h.2.1

theorem removeMod_nil (hp : r.removePdrs = []) (hf : r.removeFars = []) (hq : r.removeQers = []) (pdrs : List Pdr) (fars : List Far)
    (qers : List Qer) : removeMod r pdrs fars qers = some ⟨pdrs, fars, qers, [], [], []⟩ :=
  removeMod_eq_some_iff.mpr ⟨by rw [hp]; rfl, by rw [hf]; rfl, by rw [hq]; rfl⟩

theorem FarOnly.removeMod_eq (h : FarOnly r) (pdrs : List Pdr) (fars : List Far) (qers : List Qer) :
    removeMod r pdrs fars qers = some ⟨pdrs, fars, qers, [], [], []⟩ := removeMod_nil h.2.2.2.2.2.1 h.2.2.2.2.2.2.1 h.2.2.2.2.2.2.2 ..

theorem AddOnly.removeMod_eq (h : AddOnly r) (pdrs : List Pdr) (fars : List Far) (qers : List Qer) :
    removeMod r pdrs fars qers = some ⟨pdrs, fars, qers, [], [], []⟩ := removeMod_nil h.2.2.2.1 h.2.2.2.2.1 h.2.2.2.2.2 ..

end

def fseidIPOf' (r : ModReq) : Nat := match r.cpFseid with | some (_, ip) => ip | none => 0

def createdQers (r : ModReq) : List Qer := r.createQers.map fun ie => { parseQER r.seid ie with fseidIP := fseidIPOf' r }

/-- the copies handed to the datapath take their QER lists / levels from the marked session; with new IDs they are the created rules
themselves -/
theorem map_withMarkedLists_append (st cp : List Pdr) (hnew : ∀ p ∈ cp, ∀ q ∈ st, q.pdrID ≠ p.pdrID) (hnd : (cp.map (·.pdrID)).Nodup) :
    cp.map (withMarkedLists (st ++ cp)) = cp :=
  (List.map_congr_left fun p hp => by unfold withMarkedLists; rw [find?_append_of_new (·.pdrID) hnew hnd hp]).trans (List.map_id' cp)

theorem map_withMarkedLevel_append (st cq : List Qer) (hnew : ∀ p ∈ cq, ∀ q ∈ st, q.qerID ≠ p.qerID) (hnd : (cq.map (·.qerID)).Nodup) :
    cq.map (withMarkedLevel (st ++ cq)) = cq :=
  (List.map_congr_left fun p hp => by unfold withMarkedLevel; rw [find?_append_of_new (·.qerID) hnew hnd hp]).trans (List.map_id' cq)

/-- what the created rules `cp` (and QERs) of a modification must be for the handler to store and send them as they are -/
structure NewRules (r : ModReq) (s0 : Session) (cp : List Pdr) : Prop where
  stable : markSessionQer (s0.pdrs ++ cp) (s0.qers ++ createdQers r) = (s0.qers ++ createdQers r, s0.pdrs ++ cp)
  newP : ∀ p ∈ cp, ∀ q ∈ s0.pdrs, q.pdrID ≠ p.pdrID
  ndP : (cp.map (·.pdrID)).Nodup
  newQ : ∀ p ∈ createdQers r, ∀ q ∈ s0.qers, q.qerID ≠ p.qerID
  ndQ : ((createdQers r).map (·.qerID)).Nodup

theorem NewRules.nil {r : ModReq} {s0 : Session} (hq : r.createQers = [])
    (hstable : markSessionQer s0.pdrs s0.qers = (s0.qers, s0.pdrs)) : NewRules r s0 [] := by
  have hq' : createdQers r = [] := by unfold createdQers; rw [hq]; rfl
  exact ⟨by rw [hq']; simpa using hstable, List.forall_mem_nil _, .nil, hq' ▸ List.forall_mem_nil _, hq' ▸ .nil⟩

theorem applyMod_stable (cfg : Cfg) (r : ModReq) (s0 : Session) (cp : List Pdr) (cf uf : List Far) (hq : r.updateQers = [])
    (N : NewRules r s0 cp) :
    applyMod cfg r s0 ⟨cp, cf, [], uf⟩ =
      { pdrs := s0.pdrs ++ cp, fars := (updFars (s0.fars ++ cf) uf).1, qers := s0.qers ++ createdQers r,
        addP := cp, addF := cf ++ (updFars (s0.fars ++ cf) uf).2.1, addQ := createdQers r,
        markers := if cfg.endMarker then (updFars (s0.fars ++ cf) uf).2.2 else [] } := by
  have e : parsedQers r r.createQers = createdQers r := rfl
  unfold applyMod
  simp only [hq, e, show parsedQers r [] = [] from rfl, updPdrs, updQers, List.foldl_nil, List.append_nil, N.stable,
    map_withMarkedLists_append s0.pdrs cp N.newP N.ndP, map_withMarkedLevel_append s0.qers _ N.newQ N.ndQ]

/-- refused while parsing, an address taken for the session stays taken -/
theorem modify_refused_or_parsed (cfg : Cfg) (w : World) (a : Nat) (r : ModReq) (s0 : Session) (hr : r.updatePdrs = [])
    (h : (w.conn a).sessions.find? (·.lseid = r.seid) = some s0) :
    (modify cfg w a r).world = { w with pool := poolOut (parsePdrs r.seid (fseidIPOf' r) (w.conn a).apps r.createPdrs w.pool) } ∨
    ∃ cp pool1 cf uf, parsePdrs r.seid (fseidIPOf' r) (w.conn a).apps r.createPdrs w.pool = .ok (cp, pool1) ∧
      mapFars cfg r.seid (fseidIPOf' r) false r.createFars = .ok cf ∧ mapFars cfg r.seid (fseidIPOf' r) true r.updateFars = .ok uf := by
  rw [modify_eq cfg h]
  cases hp : parseMod cfg (w.conn a).apps w.pool r with
  | mk o pool' =>
  cases o with
  | some p => obtain ⟨pool1, h1, h2, _, h4⟩ := parseMod_eq_some_iff.mp hp; exact .inr ⟨_, _, _, _, h1, h2, h4⟩
  | none =>
    refine .inl ?_
    have e : pool' = (parseMod cfg (w.conn a).apps w.pool r).2 := by rw [hp]
    -- without Update PDR IEs the second `parsePdrs` run leaves the pool of the first
    rcases parseMod_snd cfg (w.conn a).apps w.pool r with e' | ⟨cp, pool1, hc, e'⟩
    · (rw [e, e']) <;> rfl
    · (rw [e, e', hr]) <;> (rw [show fseidIPOf' r = fseidIPOf r from rfl, hc]; rfl)

theorem modify_parsed (cfg : Cfg) (w : World) (a : Nat) (r : ModReq) (s0 : Session) (hr : r.updatePdrs = [] ∧ r.updateQers = [])
    (h : (w.conn a).sessions.find? (·.lseid = r.seid) = some s0)
    (cp : List Pdr) (pool1 : Option Pool.P) (cf uf : List Far)
    (hp : parsePdrs r.seid (fseidIPOf' r) (w.conn a).apps r.createPdrs w.pool = .ok (cp, pool1))
    (hf : mapFars cfg r.seid (fseidIPOf' r) false r.createFars = .ok cf)
    (hu : mapFars cfg r.seid (fseidIPOf' r) true r.updateFars = .ok uf)
    (N : NewRules r s0 cp) :
    (modify cfg w a r).world =
      match removeMod r (s0.pdrs ++ cp) (updFars (s0.fars ++ cf) uf).1 (s0.qers ++ createdQers r) with
      | none => { w with pool := pool1, tables := sendAdd cfg w.tables cp (cf ++ (updFars (s0.fars ++ cf) uf).2.1) (createdQers r) }
      | some x =>
        { conns := putSession w a r.seid (afterMod r s0 x.pdrs x.fars x.qers), pool := pool1, teid := freeAll x.delP w.teid,
          tables := sendDel cfg (sendAdd cfg w.tables cp (cf ++ (updFars (s0.fars ++ cf) uf).2.1) (createdQers r)) x.delP x.delF x.delQ } := by
  rw [modify_eq cfg h, (parseMod_eq_some_iff (up := [])).mpr ⟨pool1, hp, hf, by rw [hr.1]; rfl, hu⟩]
  dsimp only
  rw [applyMod_stable cfg r s0 cp cf uf hr.2 N]
  dsimp only
  cases removeMod r (s0.pdrs ++ cp) (updFars (s0.fars ++ cf) uf).1 (s0.qers ++ createdQers r) <;> rfl

end Agent
