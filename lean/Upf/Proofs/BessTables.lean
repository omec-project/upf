import Upf.Model.Agent
import Upf.Proofs.FindMap
/-!
The four lookup tables as maps. `Table.get` reads a table, `lastVal` the entry list a rule set denotes; `SendMsgToUPF(add)` upserts
and `SendMsgToUPF(del)` deletes under the rules' own key strings (`sendAdd_tab`, `sendDel_tab`), so deleting a rule set removes
exactly the keys it was installed under (C03 "delete key = add key").
-/
namespace Agent

def Table.without (t : Table) (K : List String) : Table := t.filter fun e => !K.contains e.1

theorem Table.without_replace (t : Table) (k v : String) (K : List String) (hkc : K.contains k = true) :
    (t.map fun e => if e.1 == k then (k, v) else e).filter (fun e => !K.contains e.1) = t.filter (fun e => !K.contains e.1) := by
  induction t with
  | nil => rfl
  | cons e rest ih =>
    rw [List.map_cons, List.filter_cons, List.filter_cons, ih]
    by_cases he : (e.1 == k) = true
    · have hk' : e.1 = k := by simpa using he
      rw [if_pos he]
      have hkm : k ∈ K := List.contains_iff_mem.mp hkc
      simp [hk', hkm]
    · rw [if_neg he]

theorem Table.without_upsert (t : Table) (k v : String) (K : List String) (hk : k ∈ K) :
    (t.upsert k v).without K = t.without K := by
  unfold Table.upsert Table.without
  have hkc : K.contains k = true := List.contains_iff_mem.mpr hk
  split
  · -- the key exists: the entry is replaced in place, and is dropped by the filter before and after
    exact Table.without_replace t k v K hkc
  · rw [List.filter_append]
    simp only [List.filter_cons, hkc, Bool.not_true, Bool.false_eq_true, if_false, List.filter_nil, List.append_nil]

theorem Table.without_foldl_upsert (es : List (String × String)) (K : List String) (h : ∀ e ∈ es, e.1 ∈ K) :
    ∀ t : Table, (es.foldl (fun tb e => tb.upsert e.1 e.2) t).without K = t.without K := by
  induction es with
  | nil => intro t; rfl
  | cons e rest ih =>
    intro t
    simp only [List.foldl_cons]
    rw [ih (fun e' he' => h e' (List.mem_cons_of_mem _ he'))]
    exact Table.without_upsert t e.1 e.2 K (h e (List.mem_cons_self ..))

theorem Table.without_without (t : Table) (K L : List String) : (t.without K).without L = t.without (K ++ L) := by
  unfold Table.without
  rw [List.filter_filter]
  congr 1
  funext x
  simp only [List.contains_append]
  cases (K.contains x.1) <;> cases (L.contains x.1) <;> rfl

theorem Table.del_eq_without (t : Table) (k : String) : t.del k = t.without [k] := by
  unfold Table.del Table.without
  congr 1; funext e
  by_cases he : e.1 = k <;> simp [bne, he]

theorem Table.foldl_del (es : List (String × String)) :
    ∀ t : Table, es.foldl (fun tb e => tb.del e.1) t = t.without (es.map (·.1)) := by
  induction es with
  | nil => intro t; exact (List.filter_eq_self.mpr (by simp)).symm
  | cons e rest ih => intro t; rw [List.foldl_cons, ih, Table.del_eq_without, Table.without_without]; rfl

theorem Table.without_fresh {t : Table} {K : List String} (h : ∀ k ∈ K, k ∉ t.map (·.1)) : t.without K = t := by
  unfold Table.without
  rw [List.filter_eq_self]
  intro e he
  cases hc : K.contains e.1 with
  | false => rfl
  | true => exact absurd (List.mem_map_of_mem he) (h e.1 (List.contains_iff_mem.mp hc))

def pdrKV (pdrs : List Pdr) : List (String × String) := pdrs.flatMap fun p => (pdrEntries p).getD []
def farKV (fars : List Far) : List (String × String) := fars.map farEntry
def appQerKV (cfg : Cfg) (qers : List Qer) : List (String × String) := (qers.filter (!·.session)).flatMap (qerEntries cfg)
def sessQerKV (cfg : Cfg) (qers : List Qer) : List (String × String) := (qers.filter (·.session)).flatMap (qerEntries cfg)

/-- `addPdr`, `addFar`, `addQer` are these with `upsert`; `delPdr`, `delFar`, `delQer` with `del` -/
def pdrOp (op : Table → String × String → Table) (t : Tables) (p : Pdr) : Tables :=
  match pdrEntries p with
  | none => t
  | some es => { t with pdr := es.foldl op t.pdr }
def farOp (op : Table → String × String → Table) (t : Tables) (f : Far) : Tables := { t with far := op t.far (farEntry f) }
def qerOp (op : Table → String × String → Table) (cfg : Cfg) (t : Tables) (q : Qer) : Tables :=
  if q.session then { t with sessQer := (qerEntries cfg q).foldl op t.sessQer } else { t with appQer := (qerEntries cfg q).foldl op t.appQer }

theorem foldl_pdrOp (op : Table → String × String → Table) (pdrs : List Pdr) : ∀ t : Tables, pdrs.foldl (pdrOp op) t =
    { t with pdr := (pdrKV pdrs).foldl op t.pdr } := by
  induction pdrs with
  | nil => intro t; rfl
  | cons p rest ih =>
    intro t
    simp only [List.foldl_cons, pdrKV, List.flatMap_cons, List.foldl_append]
    rw [ih]
    unfold pdrOp
    cases pdrEntries p <;> simp [pdrKV]

theorem foldl_farOp (op : Table → String × String → Table) (fars : List Far) : ∀ t : Tables, fars.foldl (farOp op) t =
    { t with far := (farKV fars).foldl op t.far } := by
  induction fars with
  | nil => intro t; rfl
  | cons f rest ih => intro t; simp only [List.foldl_cons, farKV, List.map_cons]; rw [ih]; simp [farOp, farKV]

theorem foldl_qerOp (op : Table → String × String → Table) (cfg : Cfg) (qers : List Qer) : ∀ t : Tables, qers.foldl (qerOp op cfg) t =
    { t with appQer := (appQerKV cfg qers).foldl op t.appQer, sessQer := (sessQerKV cfg qers).foldl op t.sessQer } := by
  induction qers with
  | nil => intro t; rfl
  | cons q rest ih =>
    intro t
    simp only [List.foldl_cons]
    rw [ih]
    unfold qerOp
    cases hs : q.session <;> simp [appQerKV, sessQerKV, hs, List.foldl_append]

def sendOp (op : Table → String × String → Table) (cfg : Cfg) (t : Tables) (pdrs : List Pdr) (fars : List Far) (qers : List Qer) : Tables :=
  qers.foldl (qerOp op cfg) (fars.foldl (farOp op) (pdrs.foldl (pdrOp op) t))

theorem sendAdd_eq_sendOp (cfg : Cfg) (t : Tables) (pdrs : List Pdr) (fars : List Far) (qers : List Qer) :
    sendAdd cfg t pdrs fars qers = sendOp (fun tb e => tb.upsert e.1 e.2) cfg t pdrs fars qers := by
  unfold sendAdd sendOp addPdr addFar addQer pdrOp farOp qerOp; rfl
theorem sendDel_eq_sendOp (cfg : Cfg) (t : Tables) (pdrs : List Pdr) (fars : List Far) (qers : List Qer) :
    sendDel cfg t pdrs fars qers = sendOp (fun tb e => tb.del e.1) cfg t pdrs fars qers := by
  unfold sendDel sendOp delPdr delFar delQer pdrOp farOp qerOp; rfl

theorem sendOp_eq (op : Table → String × String → Table) (cfg : Cfg) (t : Tables) (pdrs : List Pdr) (fars : List Far) (qers : List Qer) :
    sendOp op cfg t pdrs fars qers =
      { pdr := (pdrKV pdrs).foldl op t.pdr, far := (farKV fars).foldl op t.far,
        appQer := (appQerKV cfg qers).foldl op t.appQer, sessQer := (sessQerKV cfg qers).foldl op t.sessQer } := by
  unfold sendOp
  rw [foldl_pdrOp, foldl_farOp, foldl_qerOp]

theorem Table.foldl_del_foldl_upsert (es : List (String × String)) (t : Table) :
    es.foldl (fun tb e => tb.del e.1) (es.foldl (fun tb e => tb.upsert e.1 e.2) t) = t.without (es.map (·.1)) := by
  rw [Table.foldl_del]
  exact Table.without_foldl_upsert es _ (fun e he => List.mem_map_of_mem he) t

theorem sendDel_sendAdd (cfg : Cfg) (t : Tables) (pdrs : List Pdr) (fars : List Far) (qers : List Qer) :
    sendDel cfg (sendAdd cfg t pdrs fars qers) pdrs fars qers =
      { pdr := t.pdr.without ((pdrKV pdrs).map (·.1)), far := t.far.without ((farKV fars).map (·.1)),
        appQer := t.appQer.without ((appQerKV cfg qers).map (·.1)), sessQer := t.sessQer.without ((sessQerKV cfg qers).map (·.1)) } := by
  rw [sendAdd_eq_sendOp, sendDel_eq_sendOp, sendOp_eq, sendOp_eq]
  simp only [Table.foldl_del_foldl_upsert]

theorem sendDel_sendAdd_fresh (cfg : Cfg) (t : Tables) (pdrs : List Pdr) (fars : List Far) (qers : List Qer)
    (hp : ∀ k ∈ (pdrKV pdrs).map (·.1), k ∉ t.pdr.map (·.1)) (hf : ∀ k ∈ (farKV fars).map (·.1), k ∉ t.far.map (·.1))
    (ha : ∀ k ∈ (appQerKV cfg qers).map (·.1), k ∉ t.appQer.map (·.1))
    (hs : ∀ k ∈ (sessQerKV cfg qers).map (·.1), k ∉ t.sessQer.map (·.1)) :
    sendDel cfg (sendAdd cfg t pdrs fars qers) pdrs fars qers = t := by
  rw [sendDel_sendAdd, Table.without_fresh hp, Table.without_fresh hf, Table.without_fresh ha, Table.without_fresh hs]

theorem sendDel_eq (cfg : Cfg) (t : Tables) (pdrs : List Pdr) (fars : List Far) (qers : List Qer) :
    sendDel cfg t pdrs fars qers =
      { pdr := t.pdr.without ((pdrKV pdrs).map (·.1)), far := t.far.without ((farKV fars).map (·.1)),
        appQer := t.appQer.without ((appQerKV cfg qers).map (·.1)), sessQer := t.sessQer.without ((sessQerKV cfg qers).map (·.1)) } := by
  rw [sendDel_eq_sendOp, sendOp_eq]
  simp only [Table.foldl_del]

theorem Table.mem_without {t : Table} {K : List String} {e : String × String} : e ∈ t.without K ↔ e ∈ t ∧ e.1 ∉ K := by
  unfold Table.without
  rw [List.mem_filter, Bool.not_eq_true', ← Bool.not_eq_true, List.contains_iff_mem]

theorem Table.not_mem_without {t : Table} {K : List String} {e : String × String} (hk : e.1 ∈ K) : e ∉ t.without K :=
  fun h => (Table.mem_without.mp h).2 hk

def Table.get (t : Table) (k : String) : Option String := (t.find? (fun e => e.1 == k)).map (·.2)

def lastVal (es : List (String × String)) (k : String) : Option String := (es.reverse.find? (fun e => e.1 == k)).map (·.2)

theorem Table.get_upsert (t : Table) (k v k' : String) :
    (t.upsert k v).get k' = if k' = k then some v else t.get k' := by
  unfold Table.upsert Table.get
  split
  · rename_i hany
    rw [find?_map_test _ _ (fun e => by split <;> first | rfl | (rename_i h; rw [beq_iff_eq.mp h])) t, Option.map_map]
    cases hfind : t.find? (fun e => e.1 == k') with
    | none =>
      -- `k` has an entry, `k'` has none
      obtain ⟨x, hx, hxk⟩ := List.any_eq_true.mp hany
      rw [if_neg fun e : k' = k => List.find?_eq_none.mp hfind x hx (e ▸ hxk)]; rfl
    | some e =>
      have he : e.1 = k' := by simpa using List.find?_some hfind
      simp only [Option.map_some, Function.comp, he, beq_iff_eq]
      split <;> rfl
  · rename_i hany
    rw [List.find?_append]
    split
    · rename_i hk
      rw [List.find?_eq_none.mpr fun x hx hxk => hany (List.any_eq_true.mpr ⟨x, hx, hk ▸ hxk⟩)]
      simp [hk]
    · rename_i hk
      have : (k == k') = false := beq_eq_false_iff_ne.mpr (Ne.symm hk)
      simp [this]

theorem Table.get_without (t : Table) (K : List String) (k : String) :
    (t.without K).get k = if k ∈ K then none else t.get k := by
  unfold Table.without Table.get
  rw [List.find?_filter]
  split
  · rename_i hk
    rw [List.find?_eq_none.mpr]; · rfl
    intro x _ hx
    simp only [beq_iff_eq, decide_eq_true_eq] at hx
    exact absurd (hx.2 ▸ hk) (by simpa using hx.1)
  · rename_i hk
    congr 2; funext e
    by_cases he : e.1 = k <;> simp [he, hk]

theorem Table.get_del (t : Table) (k k' : String) : (t.del k).get k' = if k' = k then none else t.get k' := by
  rw [Table.del_eq_without, Table.get_without]; simp

theorem lastVal_append (es1 es2 : List (String × String)) (k : String) :
    lastVal (es1 ++ es2) k = (lastVal es2 k).or (lastVal es1 k) := by
  unfold lastVal
  rw [List.reverse_append, List.find?_append]
  cases List.find? (fun e => e.1 == k) es2.reverse <;> simp

theorem lastVal_single (e : String × String) (k : String) : lastVal [e] k = if k = e.1 then some e.2 else none := by
  unfold lastVal
  by_cases h : k = e.1
  · simp [h]
  · have : (e.1 == k) = false := by simpa using fun x => h x.symm
    simp [h, this]

theorem lastVal_cons (e : String × String) (es : List (String × String)) (k : String) :
    lastVal (e :: es) k = (lastVal es k).or (lastVal [e] k) := lastVal_append [e] es k

theorem Table.keys_upsert (t : Table) (k v : String) (h : k ∈ t.map (·.1)) : (t.upsert k v).map (·.1) = t.map (·.1) := by
  obtain ⟨e, he, hek⟩ := List.mem_map.mp h
  unfold Table.upsert
  rw [if_pos (List.any_eq_true.mpr ⟨e, he, beq_iff_eq.mpr hek⟩ : t.any (fun x => x.1 == k) = true), List.map_map]
  refine List.map_congr_left fun e _ => ?_
  show (if (e.1 == k) = true then (k, v) else e).1 = e.1
  split
  · rename_i h; exact (beq_iff_eq.mp h).symm
  · rfl

/-- an upsert replaces every entry under the key, so the last value is the new one as the first is (`Table.get_upsert`) -/
theorem lastVal_upsert (t : Table) (k v k' : String) : lastVal (t.upsert k v) k' = if k' = k then some v else lastVal t k' := by
  unfold Table.upsert
  split
  · rename_i hany
    have := Table.get_upsert t.reverse k v k'
    unfold Table.upsert at this
    rw [List.any_reverse, if_pos hany, List.map_reverse] at this
    exact this
  · rw [lastVal_append, lastVal_single]
    by_cases h : k' = k <;> simp [h]

theorem lastVal_isSome_iff {es : List (String × String)} {k : String} : (lastVal es k).isSome ↔ k ∈ es.map (·.1) := by
  unfold lastVal
  rw [Option.isSome_map, List.find?_isSome]
  simp only [List.mem_reverse, List.mem_map, beq_iff_eq]

theorem lastVal_eq_none {es : List (String × String)} {k : String} (h : k ∉ es.map (·.1)) : lastVal es k = none := by
  cases hv : lastVal es k with
  | none => rfl
  | some v => exact absurd (lastVal_isSome_iff.mp (by simp [hv])) h

theorem lastVal_eq_some_iff_mem {es : List (String × String)} (hnd : (es.map (·.1)).Nodup) {k v : String} :
    lastVal es k = some v ↔ (k, v) ∈ es := by
  induction es with
  | nil => simp [lastVal]
  | cons e rest ih =>
    obtain ⟨hne, hnd'⟩ := List.nodup_cons.mp hnd
    rw [lastVal_cons, lastVal_single, List.mem_cons]
    by_cases hk : k = e.1
    · rw [lastVal_eq_none (hk ▸ hne), if_pos hk, Option.none_or, Option.some.injEq]
      exact ⟨fun h => .inl (by rw [hk, ← h]), fun h => h.elim (fun h => by rw [← h])
        fun h => absurd (List.mem_map_of_mem (f := (·.1)) h) (hk ▸ hne)⟩
    · rw [if_neg hk, Option.or_none, ih hnd']
      exact ⟨.inr, fun h => h.resolve_left fun h => hk (by rw [← h])⟩

theorem Table.get_foldl_upsert (es : List (String × String)) : ∀ (t : Table) (k : String),
    (es.foldl (fun tb e => tb.upsert e.1 e.2) t).get k = (lastVal es k).or (t.get k) := by
  induction es with
  | nil => intro t k; simp [lastVal]
  | cons e rest ih =>
    intro t k
    rw [List.foldl_cons, ih, Table.get_upsert, lastVal_cons, lastVal_single, Option.or_assoc]
    by_cases h : k = e.1 <;> simp [h]

inductive Tb | pdr | far | app | sess
  deriving DecidableEq

def Tables.tab (t : Tables) : Tb → Table
  | .pdr => t.pdr | .far => t.far | .app => t.appQer | .sess => t.sessQer

def Session.kv (cfg : Cfg) (s : Session) : Tb → List (String × String)
  | .pdr => pdrKV s.pdrs | .far => farKV s.fars | .app => appQerKV cfg s.qers | .sess => sessQerKV cfg s.qers

def Session.keysOf (cfg : Cfg) (s : Session) (X : Tb) : List String := (s.kv cfg X).map (·.1)

theorem sendAdd_tab (cfg : Cfg) (t : Tables) (s : Session) (X : Tb) :
    (sendAdd cfg t s.pdrs s.fars s.qers).tab X = (s.kv cfg X).foldl (fun tb e => tb.upsert e.1 e.2) (t.tab X) := by
  rw [sendAdd_eq_sendOp, sendOp_eq]
  cases X <;> rfl

theorem sendDel_tab (cfg : Cfg) (t : Tables) (s : Session) (X : Tb) :
    (sendDel cfg t s.pdrs s.fars s.qers).tab X = (t.tab X).without (s.keysOf cfg X) := by
  rw [sendDel_eq]
  cases X <;> rfl

theorem get_sendAdd (cfg : Cfg) (t : Tables) (s : Session) (X : Tb) (k : String) :
    ((sendAdd cfg t s.pdrs s.fars s.qers).tab X).get k = (lastVal (s.kv cfg X) k).or ((t.tab X).get k) := by
  rw [sendAdd_tab, Table.get_foldl_upsert]

theorem get_sendDel (cfg : Cfg) (t : Tables) (s : Session) (X : Tb) (k : String) :
    ((sendDel cfg t s.pdrs s.fars s.qers).tab X).get k = if k ∈ s.keysOf cfg X then none else (t.tab X).get k := by
  rw [sendDel_tab, Table.get_without]

theorem key_of_lastVal {cfg : Cfg} {s : Session} {X : Tb} {k v : String} (h : lastVal (s.kv cfg X) k = some v) : k ∈ s.keysOf cfg X :=
  lastVal_isSome_iff.mp (by simp [h])

end Agent
