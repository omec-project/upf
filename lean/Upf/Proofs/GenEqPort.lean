import Upf.Gen.Leaf
import Upf.Model.PortRange
/-! T1 tie for C17: the leaf predicates regenerated from parse_pdr.go equal the hand model. -/
namespace GenEq
open Tern

theorem eq_decide {b : Bool} {p : Prop} [Decidable p] (h : b = true ↔ p) : b = decide p :=
  Bool.eq_iff_iff.mpr (h.trans decide_eq_true_iff.symm)

theorem isWildcard_eq (lo hi : BitVec 16) :
    Gen.Leaf.portRange_isWildcardMatch lo hi = decide (PR.isWildcard ⟨lo, hi⟩) :=
  eq_decide (by simp [Gen.Leaf.portRange_isWildcardMatch, PR.isWildcard])

theorem isExact_eq (lo hi : BitVec 16) :
    Gen.Leaf.portRange_isExactMatch lo hi = decide (PR.isExact ⟨lo, hi⟩) :=
  eq_decide (by simp [Gen.Leaf.portRange_isExactMatch, PR.isExact])

theorem isRange_eq (lo hi : BitVec 16) :
    Gen.Leaf.portRange_isRangeMatch lo hi = decide (PR.isRange ⟨lo, hi⟩) :=
  eq_decide (by simp [Gen.Leaf.portRange_isRangeMatch, PR.isRange, isWildcard_eq, isExact_eq])

theorem width_eq (lo hi : BitVec 16) :
    Gen.Leaf.portRange_Width lo hi = PR.width ⟨lo, hi⟩ := by
  simp [Gen.Leaf.portRange_Width, PR.width, isWildcard_eq]

theorem newRange_eq (lo hi : BitVec 16) :
    Gen.Leaf.newRangeMatchPortRange lo hi = ((newRange lo hi).low, (newRange lo hi).high) := by
  simp only [Gen.Leaf.newRangeMatchPortRange, newRange, BitVec.ult, BitVec.lt_def, gt_iff_lt, decide_eq_true_eq]
  split <;> rfl

theorem wildcardRange_eq : Gen.Leaf.newWildcardPortRange = (0#16, 0xFFFF#16) := rfl

theorem exactRange_eq (p : BitVec 16) : Gen.Leaf.newExactMatchPortRange p = (p, p) := rfl

end GenEq
