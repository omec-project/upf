import Upf.Model.Agent
import Upf.Gen.Leaf
/-!
Ties between the hand-written Agent model (BESS side) and the leaf functions regenerated from /repo (`Gen.Leaf`): the model's
`actionValue`, `has2ndBit`, `has5thBit`, `needAllocIP` are the Go functions `bess.setActionValue`, `has2ndBit`, `has5thBit`,
`needAllocIP` on every input of their machine types (the tie for `calcBurst` is `C09.burst_is_the_code`).
-/
namespace Agent

theorem beq_nat (d k : BitVec 8) : (d == k) = decide (d.toNat = k.toNat) := by
  rw [Bool.eq_iff_iff, beq_iff_eq, decide_eq_true_iff, BitVec.toNat_inj]

theorem has2ndBit_toNat (b : BitVec 8) : Gen.Leaf.has2ndBit b = has2ndBit b.toNat := by
  unfold Gen.Leaf.has2ndBit has2ndBit
  rw [beq_nat, BitVec.toNat_ushiftRight, BitVec.toNat_and]
  rfl

theorem has5thBit_toNat (b : BitVec 8) : Gen.Leaf.has5thBit b = has5thBit b.toNat := by
  unfold Gen.Leaf.has5thBit has5thBit
  rw [beq_nat, BitVec.toNat_and]
  rfl

theorem needAllocIP_toNat (b : BitVec 8) : Gen.Leaf.needAllocIP b = needAllocIP b.toNat := by
  unfold Gen.Leaf.needAllocIP needAllocIP
  rw [has2ndBit_toNat, has5thBit_toNat]
  cases has2ndBit b.toNat && !has5thBit b.toNat <;> rfl

theorem toNat_ofNat8 {f : Nat} (hf : f < 256) : (BitVec.ofNat 8 f).toNat = f := by
  rw [BitVec.toNat_ofNat]; exact Nat.mod_eq_of_lt hf

theorem has2ndBit_gen : ∀ f < 256, Gen.Leaf.has2ndBit (BitVec.ofNat 8 f) = has2ndBit f := fun f hf => by
  rw [has2ndBit_toNat, toNat_ofNat8 hf]
theorem has5thBit_gen : ∀ f < 256, Gen.Leaf.has5thBit (BitVec.ofNat 8 f) = has5thBit f := fun f hf => by
  rw [has5thBit_toNat, toNat_ofNat8 hf]
theorem needAllocIP_gen : ∀ f < 256, Gen.Leaf.needAllocIP (BitVec.ofNat 8 f) = needAllocIP f := fun f hf => by
  rw [needAllocIP_toNat, toNat_ofNat8 hf]

theorem band_ne (a k : BitVec 8) : ((a &&& k) != 0#8) = decide (a.toNat &&& k.toNat ≠ 0) := by
  rw [bne, beq_nat, BitVec.toNat_and, decide_not]; rfl

/-- `toNat` goes through the branches and the tests become the model's tests on the numbers: the two if-trees are then the same -/
theorem actionValue_gen (d a : BitVec 8) :
    (Gen.Leaf.bess_setActionValue d a).toNat = actionValue { dstIntf := d.toNat, applyAction := a.toNat } := by
  unfold Gen.Leaf.bess_setActionValue actionValue
  simp only [apply_ite BitVec.toNat, band_ne, beq_nat, ActionForward, ActionDrop, ActionBuffer, ActionNotify, Gen.Consts.ActionForward,
    Gen.Consts.ActionDrop, Gen.Consts.ActionBuffer, Gen.Consts.ActionNotify, Gen.Consts.farForwardD, Gen.Consts.farForwardU,
    Gen.Consts.farDrop, Gen.Consts.farNotify, BitVec.toNat_ofNat, Bool.or_eq_true, decide_eq_true_eq]
  rfl

end Agent
