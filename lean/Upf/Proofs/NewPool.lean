import Upf.Model.NewPool
/-! C06: `NewIPPool` (pfcpiface/ip_pool.go) for an IPv4 prefix yields the addresses strictly between network and broadcast address, each once. -/

namespace NewPool

theorem range'_inner (a k : Nat) : ((List.range' a (k + 2)).drop 1).dropLast = List.range' (a + 1) k := by
  rw [List.range'_succ, List.drop_one, List.tail_cons, List.range'_concat, List.dropLast_concat]

theorem newPool_spec (ip : U32) (len : Nat) (hl : len ≤ 30) :
    ∃ l, newPool ip len = some l ∧ l.Nodup ∧ l.length = 2 ^ (32 - len) - 2 ∧
      ∀ a, a ∈ l ↔ ((ip &&& maskOf len).toNat < a ∧ a < (ip &&& maskOf len).toNat + 2 ^ (32 - len) - 1) := by
  obtain ⟨k, hk⟩ : ∃ k, 2 ^ (32 - len) = k + 2 :=
    Nat.exists_eq_add_of_le' (Nat.pow_le_pow_right (n := 2) (by decide) (by omega : 1 ≤ 32 - len))
  rw [newPool, hk, if_neg (Nat.not_lt.mpr (Nat.le_add_left 2 k)), range'_inner]
  refine ⟨_, rfl, List.nodup_range', List.length_range', fun a => ?_⟩
  -- `net + 1 ≤ a` is `net < a` by definition, and `net + (k + 2) - 1` computes to `net + k + 1`
  rw [List.mem_range'_1, Nat.add_right_comm]
  exact Iff.rfl

#print axioms newPool_spec

end NewPool
