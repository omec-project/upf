import Upf.Model.PortProduct
import Upf.Proofs.PortRange
/-! C17: `CreatePortRangeCartesianProduct` (pfcpiface/parse_pdr.go) seen as a product of two rule lists: what it covers and when it refuses. -/

namespace Tern

def pairs (A B : List Rule) : List Rule2 := A.flatMap fun a => B.map fun b => ⟨a, b⟩

theorem pairs_cover (A B : List Rule) (sp dp : U16) :
    (∃ r ∈ pairs A B, r.matches sp dp) ↔ (∃ a ∈ A, a.matches sp) ∧ (∃ b ∈ B, b.matches dp) := by
  simp only [pairs, List.mem_flatMap, List.mem_map, Rule2.matches]
  constructor
  · rintro ⟨_, ⟨a, ha, b, hb, rfl⟩, h1, h2⟩
    exact ⟨⟨a, ha, h1⟩, b, hb, h2⟩
  · rintro ⟨⟨a, ha, h1⟩, b, hb, h2⟩
    exact ⟨_, ⟨a, ha, b, hb, rfl⟩, h1, h2⟩

theorem cartesian_eq (s d : PR) : cartesian s d =
    if s.isRange ∧ d.isRange then none
    else (asComplex .exact s).bind fun A => (asComplex .exact d).map fun B => pairs A B := by
  unfold cartesian
  by_cases hs : s.isRange <;> by_cases hd : d.isRange
  · simp [hs, hd]
  · rw [asComplex_of_not_range _ hd]
    cases asComplex .exact s <;> cases asTrivial d <;> simp [hs, hd, pairs, List.map_eq_flatMap]
  · rw [asComplex_of_not_range _ hs]
    cases asComplex .exact d <;> cases asTrivial s <;> simp [hs, hd, pairs]
  · rw [asComplex_of_not_range _ hs, asComplex_of_not_range _ hd]
    cases asTrivial s <;> cases asTrivial d <;> simp [hs, hd, pairs]

theorem product_cover (s d : PR) (rs : List Rule2) (h : cartesian s d = some rs) (sp dp : U16) :
    (∃ r ∈ rs, r.matches sp dp) ↔ (s.denotes sp ∧ d.denotes dp) := by
  rw [cartesian_eq] at h
  split at h
  · cases h
  · obtain ⟨A, hA, h⟩ := Option.bind_eq_some_iff.mp h
    obtain ⟨B, hB, rfl⟩ := Option.map_eq_some_iff.mp h
    rw [pairs_cover, complex_cover _ s A hA, complex_cover _ d B hB]

/-- refused exactly when: both true ranges, or the single true range is wider than 100 -/
theorem refused_iff (s d : PR) : cartesian s d = none ↔
    ((s.isRange ∧ d.isRange) ∨ (s.isRange ∧ s.width > 100#16) ∨ (d.isRange ∧ d.width > 100#16)) := by
  rw [cartesian_eq, ← asComplex_exact_eq_none_iff, ← asComplex_exact_eq_none_iff]
  split
  · simp [*]
  · cases asComplex .exact s <;> cases asComplex .exact d <;> simp [*]

#print axioms product_cover
#print axioms refused_iff

end Tern
