import Upf.Model.Seid
/-! C07: the retry loop of `NewPFCPSession` (pfcpiface/sessions.go): a granted SEID is non-zero and not live; none is granted only if every draw was unusable. -/
namespace Seid

theorem pick_fresh (d : Nat → Nat) (live : List Nat) : ∀ (f i x j : Nat), pick d live f i = (some x, j) →
    x ≠ 0 ∧ x ∉ live ∧ ∃ k, k < f ∧ x = d (i + k) ∧ j = i + k + 1 := by
  intro f
  induction f with
  | zero => intro i x j h; cases h
  | succ n ih =>
    intro i x j h
    rw [pick] at h
    rw [Nat.exists_lt_succ_left]
    split at h
    · obtain ⟨h1, h2, k, hk, e1, e2⟩ := ih (i+1) x j h
      rw [Nat.add_right_comm i 1 k] at e1 e2
      exact ⟨h1, h2, .inr ⟨k, hk, e1, e2⟩⟩
    next hc =>
      cases h
      exact ⟨fun e => hc (.inl e), fun e => hc (.inr e), .inl ⟨rfl, rfl⟩⟩

theorem pick_none_iff (d : Nat → Nat) (live : List Nat) : ∀ (f i : Nat),
    (pick d live f i).1 = none ↔ ∀ k, k < f → (d (i + k) = 0 ∨ d (i + k) ∈ live) := by
  intro f
  induction f with
  | zero => exact fun i => iff_of_true rfl fun _ h => absurd h (Nat.not_lt_zero _)
  | succ n ih =>
    intro i
    rw [pick, Nat.forall_lt_succ_left]
    split
    next hc => simp only [ih (i+1), hc, true_and, Nat.add_zero, Nat.add_assoc, Nat.add_comm 1]
    next hc => exact iff_of_false nofun fun h => hc h.1

end Seid
