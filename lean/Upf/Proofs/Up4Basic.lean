import Upf.Model.Up4
/-!
Basic facts about the UP4 model: the Go maps and sets, `Pop()`, what a Write RPC leaves alone, and the two notions the
proofs about up4.go are organised around. `Frame g s s'`: `s'` is `s` outside the part `g` of the bookkeeping; every function of
up4.go owns at most one part (`Up4Ops` has its footprint), and an invariant about another part is kept because of that alone.
`Chain R`: a relation between the context before an operation, the context after it and its success flag that composes along a
sequence of operations stopping at the first failure; the loops and the three request functions of up4.go are such sequences,
each has one induction principle (`…_chain`), and "keeps the invariant", "leaves the part alone", "every Write was good" are
instances.
-/
namespace Up4

section Maps
variable {κ ν : Type} [BEq κ] [LawfulBEq κ]

theorem mapGet_mapPut_self (m : List (κ × ν)) (k : κ) (v : ν) : mapGet (mapPut m k v) k = some v := by
  induction m with
  | nil => simp [mapPut, mapGet]
  | cons e rest ih =>
    unfold mapPut
    split
    · simp [mapGet]
    · rename_i h; simp [mapGet, h, ih]

theorem mapGet_mapPut_ne (m : List (κ × ν)) {k k' : κ} (v : ν) (h : k' ≠ k) : mapGet (mapPut m k v) k' = mapGet m k' := by
  induction m with
  | nil => simp [mapPut, mapGet, Ne.symm h]
  | cons e rest ih =>
    unfold mapPut
    split
    · rename_i he; cases eq_of_beq he; simp [mapGet, Ne.symm h]
    · simp [mapGet, ih]

omit [LawfulBEq κ] in
theorem mapGet_mapDel_self (m : List (κ × ν)) (k : κ) : mapGet (mapDel m k) k = none := by
  induction m with
  | nil => rfl
  | cons e rest ih =>
    unfold mapDel
    split
    · exact ih
    · rename_i h; simp [mapGet, h, ih]

theorem mapGet_mapDel_ne (m : List (κ × ν)) {k k' : κ} (h : k' ≠ k) : mapGet (mapDel m k) k' = mapGet m k' := by
  induction m with
  | nil => rfl
  | cons e rest ih =>
    unfold mapDel
    split
    · rename_i he; cases eq_of_beq he; simp [mapGet, Ne.symm h, ih]
    · simp [mapGet, ih]

theorem mapGet_mapPut_some {m : List (κ × ν)} {k k' : κ} {v w : ν} (h : mapGet (mapPut m k v) k' = some w) :
    (k' = k ∧ w = v) ∨ (k' ≠ k ∧ mapGet m k' = some w) := by
  by_cases hk : k' = k
  · subst hk; rw [mapGet_mapPut_self] at h; exact Or.inl ⟨rfl, (Option.some.inj h).symm⟩
  · rw [mapGet_mapPut_ne m v hk] at h; exact Or.inr ⟨hk, h⟩

theorem mapGet_mapDel_some {m : List (κ × ν)} {k k' : κ} {w : ν} (h : mapGet (mapDel m k) k' = some w) :
    k' ≠ k ∧ mapGet m k' = some w := by
  by_cases hk : k' = k
  · subst hk; rw [mapGet_mapDel_self] at h; cases h
  · rw [mapGet_mapDel_ne m hk] at h; exact ⟨hk, h⟩

end Maps

theorem mem_setAdd (l : List Nat) (x y : Nat) : y ∈ setAdd l x ↔ y ∈ l ∨ y = x := by
  unfold setAdd
  split
  · rename_i h
    have : x ∈ l := List.contains_iff_mem.mp h
    exact ⟨Or.inl, fun hy => hy.elim id (· ▸ this)⟩
  · simp

theorem mem_pairAdd (l : List (Nat × Nat)) (x y : Nat × Nat) : y ∈ pairAdd l x ↔ y ∈ l ∨ y = x := by
  unfold pairAdd
  split
  · rename_i h; exact ⟨Or.inl, fun hy => hy.elim id (· ▸ List.contains_iff_mem.mp h)⟩
  · simp

theorem nodup_setAdd {l : List Nat} {x : Nat} (h : l.Nodup) : (setAdd l x).Nodup := by
  unfold setAdd
  split
  · exact h
  · rename_i hc
    have : x ∉ l := fun hx => hc (List.contains_iff_mem.mpr hx)
    exact List.nodup_append.mpr ⟨h, by simp, by intro a ha b hb; simp at hb; subst hb; intro e; subst e; exact this ha⟩

theorem mem_foldl_setAdd (ids : List Nat) : ∀ (free : List Nat) (y : Nat), y ∈ ids.foldl setAdd free ↔ y ∈ free ∨ y ∈ ids := by
  induction ids with
  | nil => intro free y; simp
  | cons i rest ih => intro free y; rw [List.foldl_cons, ih, mem_setAdd, List.mem_cons, or_assoc]

theorem nodup_foldl_setAdd (ids : List Nat) : ∀ {free : List Nat}, free.Nodup → (ids.foldl setAdd free).Nodup := by
  induction ids with
  | nil => intro free h; exact h
  | cons i rest ih => intro free h; exact ih (nodup_setAdd h)

theorem nodup_range_add (n k : Nat) : ((List.range n).map (· + k)).Nodup := by
  rw [List.nodup_iff_pairwise_ne]
  exact List.pairwise_map.mpr ((List.pairwise_lt_range (n := n)).imp (by intro a b h; omega))

theorem mem_range_add {n k x : Nat} (h : x ∈ (List.range n).map (· + k)) : k ≤ x ∧ x < n + k := by
  obtain ⟨a, ha, rfl⟩ := List.mem_map.mp h
  have := List.mem_range.mp ha
  omega

theorem mem_erase_iff_of_nodup {l : List Nat} {x y : Nat} (h : l.Nodup) : y ∈ l.erase x ↔ y ∈ l ∧ y ≠ x := by
  rw [h.mem_erase_iff]; exact And.comm

theorem pop_spec {c c' : Ctx} {free f : List Nat} {x : Nat} (h : pop c free = some (x, f, c')) :
    x ∈ free ∧ f = free.erase x ∧ ∃ picks, c' = { c with picks := picks } := by
  unfold pop at h
  split at h
  · cases h
  · split at h
    · split at h
      · rename_i hc; cases h; exact ⟨by simpa using hc, rfl, _, rfl⟩
      · cases h; exact ⟨by simp, rfl, _, rfl⟩
    · cases h; exact ⟨by simp, rfl, c.picks, rfl⟩

def St.mtr (s : St) : List Nat × List Nat × List ((Nat × Nat) × Meter) := (s.appFree, s.sessFree, s.meters)

/-- the tunnel-peer part of the state -/
def St.pp (s : St) : List Nat × List (TP × Shared) := (s.peerPool, s.peers)
/-- the application part of the state -/
def St.ap (s : St) : List Nat × List (AF × AppRec) := (s.appPool, s.apps)

def St.ids (s : St) : (List Nat × List (TP × Shared)) × (List Nat × List (AF × AppRec)) := (s.pp, s.ap)

/-- what a function of up4.go may own: the counter pool (`ctrFree`), the meters with their two pools (`St.mtr`), the tunnel
peers with their ID queue (`St.pp`), the applications with theirs (`St.ap`) -/
inductive Part | ctr | mtr | pp | ap

/-- also erased: what no invariant speaks about, the switch and the UE address maps -/
def St.but (g : Option Part) (s : St) : St :=
  let s := { s with srv := {}, ue2f := [], f2ue := [] }
  match g with
  | none => s
  | some .ctr => { s with ctrFree := [] }
  | some .mtr => { s with appFree := [], sessFree := [], meters := [] }
  | some .pp => { s with peerPool := [], peers := [] }
  | some .ap => { s with appPool := [], apps := [] }

/-- for a state written as an update of `s` in fields of `g` this holds by `rfl` -/
def Frame (g : Option Part) (s s' : St) : Prop := s'.but g = s.but g

namespace Frame
variable {g : Option Part} {s s1 s' : St}

theorem trans (h1 : Frame g s s1) (h2 : Frame g s1 s') : Frame g s s' := Eq.trans h2 h1

theorem of_none (h : Frame none s s') : Frame g s s' := by
  have e : ∀ t : St, t.but g = (t.but none).but g := fun t => by
    cases g with
    | none => rfl
    | some p => cases p <;> rfl
  unfold Frame
  rw [e s', e s, h]

/-- a view of the state that does not look at part `g` (for a given `g` and `f`, by `rfl`). A failing `rfl` here means that the part
`g` the function owns overlaps what the view — the invariant — reads: this premise is the whole frame argument. -/
theorem proj {α : Type} (f : St → α) (h : Frame g s s') (e : ∀ t : St, f (t.but g) = f t := by intro; rfl) : f s' = f s := by
  rw [← e s', ← e s]; exact congrArg f h

theorem keeps {α : Type} (f : St → α) (P : α → Prop) (h : Frame g s s') (hP : P (f s))
    (e : ∀ t : St, f (t.but g) = f t := by intro; rfl) : P (f s') :=
  h.proj f e ▸ hP

end Frame

theorem write_st (c : Ctx) (ups : List Upd) : (write c ups).1.st = { c.st with srv := (write c ups).1.st.srv } := by
  unfold write
  dsimp only
  split <;> rfl

theorem write_log (c : Ctx) (ups : List Upd) : ∃ r, (write c ups).1.log = c.log ++ [r] ∧ r.ups = ups := by
  unfold write
  dsimp only
  split <;> exact ⟨_, rfl, rfl⟩

theorem write_frame (c : Ctx) (ups : List Upd) (g : Option Part) : Frame g c.st (write c ups).1.st :=
  Frame.of_none (by rw [write_st]; rfl)

/-- a Write between two changes inside `g` (both by `rfl`; the second premise comes first because it is the one that determines the
context written from) -/
theorem Frame.write {g : Option Part} {s : St} {c : Ctx} (ups : List Upd) (st' : St)
    (h1 : Frame g (Up4.write c ups).1.st st' := by exact rfl) (h0 : Frame g s c.st := by exact rfl) : Frame g s st' :=
  (h0.trans (write_frame c ups g)).trans h1

theorem write_ctrFree (c : Ctx) (ups : List Upd) : (write c ups).1.st.ctrFree = c.st.ctrFree :=
  (write_frame c ups none).proj _
theorem write_appFree (c : Ctx) (ups : List Upd) : (write c ups).1.st.appFree = c.st.appFree :=
  (write_frame c ups none).proj _
theorem write_sessFree (c : Ctx) (ups : List Upd) : (write c ups).1.st.sessFree = c.st.sessFree :=
  (write_frame c ups none).proj _
theorem write_meters (c : Ctx) (ups : List Upd) : (write c ups).1.st.meters = c.st.meters :=
  (write_frame c ups none).proj _
theorem write_peerPool (c : Ctx) (ups : List Upd) : (write c ups).1.st.peerPool = c.st.peerPool :=
  (write_frame c ups none).proj _
theorem write_peers (c : Ctx) (ups : List Upd) : (write c ups).1.st.peers = c.st.peers :=
  (write_frame c ups none).proj _
theorem write_appPool (c : Ctx) (ups : List Upd) : (write c ups).1.st.appPool = c.st.appPool :=
  (write_frame c ups none).proj _
theorem write_apps (c : Ctx) (ups : List Upd) : (write c ups).1.st.apps = c.st.apps :=
  (write_frame c ups none).proj _

/-- a Write that did not fail: served, every status OK or ALREADY_EXISTS -/
def Rpc.good (r : Rpc) : Bool := r.inj != .rpc && r.codes.all fun c => c == codeOK || c == codeAlreadyExists

/-- `c'` extends the log of `c`, and if `ok` the new part is all good -/
def Ext (c c' : Ctx) (ok : Bool) : Prop := ∃ l, c'.log = c.log ++ l ∧ (ok = true → ∀ r ∈ l, r.good = true)

theorem Ext.of_log_eq {c c' : Ctx} (h : c'.log = c.log) (ok : Bool) : Ext c c' ok := ⟨[], by simp [h], by simp⟩

theorem Ext.refl (c : Ctx) (ok : Bool) : Ext c c ok := Ext.of_log_eq rfl ok

theorem Ext.trans {c c1 c2 : Ctx} {ok1 ok2 : Bool} (h1 : Ext c c1 ok1) (h2 : Ext c1 c2 ok2) : Ext c c2 (ok1 && ok2) := by
  obtain ⟨l1, e1, g1⟩ := h1
  obtain ⟨l2, e2, g2⟩ := h2
  refine ⟨l1 ++ l2, by rw [e2, e1, List.append_assoc], ?_⟩
  intro hok r hr
  rw [Bool.and_eq_true] at hok
  rcases List.mem_append.mp hr with h | h
  · exact g1 hok.1 r h
  · exact g2 hok.2 r h

theorem Ext.weaken {c c' : Ctx} {ok : Bool} (h : Ext c c' true) : Ext c c' ok := by
  obtain ⟨l, e, g⟩ := h; exact ⟨l, e, fun _ => g rfl⟩

/-- changing the bookkeeping does not touch the log -/
theorem ext_st (c : Ctx) (st : St) (ok : Bool) : Ext c { c with st := st } ok := Ext.of_log_eq rfl ok

theorem write_ext (c : Ctx) (ups : List Upd) (acc : WRes → Bool) (hrpc : acc .rpcErr = false)
    (hp4 : ∀ codes, acc (.p4Err codes) = true → ∀ x ∈ codes, x = codeOK ∨ x = codeAlreadyExists) :
    Ext c (write c ups).1 (acc (write c ups).2) := by
  unfold write
  by_cases hinj : nextInj c = .rpc
  · rw [if_pos hinj]
    exact ⟨[_], rfl, by simp [hrpc]⟩
  · rw [if_neg hinj]
    refine ⟨[_], rfl, fun hok r hr => ?_⟩
    cases List.mem_singleton.mp hr
    simp only [Rpc.good, Bool.and_eq_true, bne_iff_ne, ne_eq, List.all_eq_true, Bool.or_eq_true, beq_iff_eq]
    refine ⟨hinj, ?_⟩
    dsimp only at hok
    by_cases hall : ((c.st.srv.batch (nextInj c) ups 0).2.all fun x => x == codeOK) = true
    · exact fun x hx => Or.inl (beq_iff_eq.mp (List.all_eq_true.mp hall x hx))
    · rw [if_neg hall] at hok
      exact hp4 _ hok

/-- a Write whose outcome `modifyUP4ForwardingConfiguration` lets pass for an INSERT or MODIFY was good -/
theorem write_ext_tolerated (c : Ctx) (ups : List Upd) (op : Op) (hop : op ≠ .delete) :
    Ext c (write c ups).1 (tolerated op (write c ups).2) :=
  write_ext c ups (tolerated op) rfl fun codes h x hx => by
    have hd : (op == Op.delete) = false := by cases op <;> simp_all
    have := List.all_eq_true.mp h x hx
    simpa [hd, Or.comm] using this

/-- the run stops at the first operation that fails, so the flag of a longer run is the conjunction -/
structure Chain (R : Ctx → Ctx → Bool → Prop) : Prop where
  refl : ∀ c, R c c true
  trans : ∀ {c c1 c2 ok1 ok2}, R c c1 ok1 → R c1 c2 ok2 → R c c2 (ok1 && ok2)
  weaken : ∀ {c c' ok}, R c c' true → R c c' ok

theorem Chain.ofSt {r : St → St → Prop} (hr : ∀ s, r s s) (ht : ∀ {s s1 s2}, r s s1 → r s1 s2 → r s s2) :
    Chain fun c c' _ => r c.st c'.st :=
  ⟨fun c => hr c.st, ht, id⟩

theorem Chain.frame (g : Option Part) : Chain fun c c' _ => Frame g c.st c'.st := Chain.ofSt (fun _ => rfl) Frame.trans

theorem Chain.ext : Chain Ext := ⟨fun c => Ext.refl c true, Ext.trans, Ext.weaken⟩

theorem Chain.inv (P : St → Prop) : Chain fun c c' _ => P c.st → P c'.st :=
  Chain.ofSt (r := fun s s' => P s → P s') (fun _ => id) (fun h1 h2 => h2 ∘ h1)

def Eff (g : Option Part) (c c' : Ctx) (ok : Bool) : Prop := Frame g c.st c'.st ∧ Ext c c' ok

theorem Chain.eff (g : Option Part) : Chain (Eff g) :=
  ⟨fun c => ⟨rfl, Ext.refl c true⟩, fun h1 h2 => ⟨h1.1.trans h2.1, h1.2.trans h2.2⟩, fun h => ⟨h.1, h.2.weaken⟩⟩

theorem Eff.silent {g : Option Part} {c c' : Ctx} {ok : Bool} (hf : Frame g c.st c'.st := by exact rfl)
    (hl : c'.log = c.log := by exact rfl) : Eff g c c' ok :=
  ⟨hf, Ext.of_log_eq hl ok⟩

theorem Eff.write {g : Option Part} {c0 c : Ctx} {ups : List Upd} (ok : Bool)
    (hok : ok = true → ((Up4.write c ups).2 == .ok) = true) (hf : Frame g c0.st c.st := by exact rfl)
    (hl : c.log = c0.log := by exact rfl) : Eff g c0 (Up4.write c ups).1 ok :=
  have ⟨l, e, good⟩ := (Ext.of_log_eq hl true).trans (write_ext c ups (· == .ok) rfl nofun)
  ⟨hf.trans (write_frame c ups g), l, e, fun h => good (hok h)⟩

theorem Eff.set {g : Option Part} {c0 c : Ctx} {ok : Bool} (h : Eff g c0 c ok) (st : St) (hf : Frame g c.st st := by exact rfl) :
    Eff g c0 { c with st := st } ok :=
  Bool.and_true ok ▸ (Chain.eff g).trans h (Eff.silent (c' := { c with st := st }) (ok := true) hf)

end Up4
