import Upf.Proofs.Up4Requests
import Upf.Proofs.Up4Start
/-!
C15 on the model, tunnel-peer IDs and application IDs: for every environment the ID a recorded peer / application holds is
not in the free queue, two recorded peers / applications never hold the same ID, and the queue has no duplicates.
(An ID whose INSERT failed is dropped — a leak, which this property does not forbid.)
-/
namespace Up4

/-- free queue vs. recorded holders, for a map whose values carry an `id` -/
structure IdInv {κ ν : Type} [BEq κ] (idOf : ν → Nat) (pool : List Nat) (m : List (κ × ν)) : Prop where
  nd : pool.Nodup
  held : ∀ k v, mapGet m k = some v → idOf v ∉ pool
  owners : ∀ k1 k2 v1 v2, k1 ≠ k2 → mapGet m k1 = some v1 → mapGet m k2 = some v2 → idOf v1 ≠ idOf v2

variable {κ ν : Type} [BEq κ] [LawfulBEq κ]

theorem IdInv.put {idOf : ν → Nat} {pool : List Nat} {m : List (κ × ν)} (h : IdInv idOf pool m) (k : κ) (v : ν)
    (hfree : idOf v ∉ pool) (hnew : ∀ k2 w, k2 ≠ k → mapGet m k2 = some w → idOf w ≠ idOf v) : IdInv idOf pool (mapPut m k v) := by
  refine ⟨h.nd, fun k2 w hw => ?_, fun k1 k2 v1 v2 hne h1 h2 => ?_⟩
  · rcases mapGet_mapPut_some hw with ⟨_, rfl⟩ | ⟨_, h'⟩
    · exact hfree
    · exact h.held k2 w h'
  · rcases mapGet_mapPut_some h1 with ⟨e1, rfl⟩ | ⟨n1, h1'⟩ <;> rcases mapGet_mapPut_some h2 with ⟨e2, rfl⟩ | ⟨n2, h2'⟩
    · exact absurd (e1.trans e2.symm) hne
    · exact (hnew k2 v2 n2 h2').symm
    · exact hnew k1 v1 n1 h1'
    · exact h.owners k1 k2 v1 v2 hne h1' h2'

/-- re-recording a holder with the same ID (reference added or dropped) -/
theorem IdInv.update {idOf : ν → Nat} {pool : List Nat} {m : List (κ × ν)} (h : IdInv idOf pool m) {k : κ} {v v' : ν}
    (hg : mapGet m k = some v) (hid : idOf v' = idOf v) : IdInv idOf pool (mapPut m k v') :=
  h.put k v' (hid ▸ h.held k v hg) fun k2 w hne hw => hid ▸ h.owners k2 k w v hne hw hg

omit [LawfulBEq κ] in
theorem IdInv.take {idOf : ν → Nat} {id : Nat} {pool : List Nat} {m : List (κ × ν)} (h : IdInv idOf (id :: pool) m) :
    IdInv idOf pool m :=
  ⟨(List.nodup_cons.mp h.nd).2, fun k v hv hx => h.held k v hv (List.mem_cons_of_mem _ hx), h.owners⟩

theorem IdInv.record {idOf : ν → Nat} {id : Nat} {pool : List Nat} {m : List (κ × ν)} (h : IdInv idOf (id :: pool) m) {k : κ} {v : ν}
    (hid : idOf v = id) : IdInv idOf pool (mapPut m k v) :=
  h.take.put k v (hid ▸ (List.nodup_cons.mp h.nd).1) fun k2 w _ hw e =>
    h.held k2 w hw (hid ▸ e ▸ List.mem_cons_self)

theorem IdInv.release {idOf : ν → Nat} {pool : List Nat} {m : List (κ × ν)} (h : IdInv idOf pool m) {k : κ} {v : ν}
    (hg : mapGet m k = some v) : IdInv idOf (pool ++ [idOf v]) (mapDel m k) := by
  refine ⟨?_, fun k2 w hw hx => ?_, fun k1 k2 v1 v2 hne h1 h2 => ?_⟩
  · exact List.nodup_append.mpr ⟨h.nd, by simp, by
      intro a ha b hb; simp at hb; subst hb; intro e; subst e; exact h.held k v hg ha⟩
  · obtain ⟨hne, h'⟩ := mapGet_mapDel_some hw
    rcases List.mem_append.mp hx with a | a
    · exact h.held k2 w h' a
    · simp at a; exact h.owners k2 k w v hne h' hg a
  · exact h.owners k1 k2 v1 v2 hne (mapGet_mapDel_some h1).2 (mapGet_mapDel_some h2).2

theorem IdInv.update_release {idOf : ν → Nat} {pool : List Nat} {m : List (κ × ν)} (h : IdInv idOf pool m) {k : κ} {v v' : ν}
    (hg : mapGet m k = some v) (hid : idOf v' = idOf v) : IdInv idOf (pool ++ [idOf v]) (mapDel (mapPut m k v') k) :=
  hid ▸ (h.update hg hid).release (mapGet_mapPut_self ..)

abbrev PInv (st : St) : Prop := IdInv (fun (p : Shared) => p.id) st.peerPool st.peers

theorem PInv.of_frame {g : Option Part} {s s' : St} (h : Frame g s s') (hI : PInv s)
    (e : ∀ t : St, (t.but g).pp = t.pp := by intro; rfl) : PInv s' :=
  h.keeps St.pp (fun v => IdInv (fun (p : Shared) => p.id) v.1 v.2) hI e

theorem addOrUpdatePeer_pinv (cfg : Cfg4) (c : Ctx) (f : Agent.Far) : PInv c.st → PInv (addOrUpdatePeer cfg c f).1.st := by
  unfold PInv; intro h
  obtain ⟨pr, hm, e1, e2⟩ | ⟨-, -, e1, e2⟩ | ⟨id, -, hp, ⟨-, e2⟩ | e2⟩ := (addOrUpdatePeer_spec cfg c f).2
  · rw [e1, e2]; exact h.update hm rfl
  · rw [e1, e2]; exact h
  · rw [hp] at h; rw [e2]; exact h.take
  · rw [hp] at h; rw [e2]; exact h.record rfl

theorem removePeer_pinv (cfg : Cfg4) (c : Ctx) (f : Agent.Far) : PInv c.st → PInv (removePeer cfg c f).st := by
  unfold PInv; intro h
  obtain ⟨-, e1, e2⟩ | ⟨pr, hm, ⟨-, e1, -, e2⟩ | ⟨-, e1, -, e2⟩⟩ := (removePeer_spec cfg c f).2 <;> rw [e1, e2]
  · exact h
  · exact h.update hm rfl
  · exact h.update_release hm rfl

abbrev AInv (st : St) : Prop := IdInv (fun (a : AppRec) => a.id) st.appPool st.apps

theorem AInv.of_frame {g : Option Part} {s s' : St} (h : Frame g s s') (hI : AInv s)
    (e : ∀ t : St, (t.but g).ap = t.ap := by intro; rfl) : AInv s' :=
  h.keeps St.ap (fun v => IdInv (fun (a : AppRec) => a.id) v.1 v.2) hI e

theorem addApp_ainv (cfg : Cfg4) (st : St) (p : Agent.Pdr) : AInv st → AInv (addApp cfg st p).1 := by
  unfold AInv; intro h
  obtain ⟨ap, hm, e1, e2⟩ | ⟨e1, e2⟩ | ⟨id, hp, e2 | ⟨en, e2⟩⟩ := (addApp_spec cfg st p).2
  · rw [e1, e2]; exact h.update hm rfl
  · rw [e1, e2]; exact h
  · rw [hp] at h; rw [e2]; exact h.take
  · rw [hp] at h; rw [e2]; exact h.record rfl

theorem removeApp_ainv (cfg : Cfg4) (st : St) (p : Agent.Pdr) : AInv st → AInv (removeApp cfg st p).1 := by
  unfold AInv; intro h
  obtain ⟨e1, e2⟩ | ⟨ap, hm, ⟨e1, e2⟩ | ⟨e1, e2⟩⟩ := (removeApp_spec cfg st p).2 <;> rw [e1, e2]
  · exact h
  · exact h.update hm rfl
  · exact h.update_release hm rfl

theorem modifyFwd_ainv (cfg : Cfg4) (fars : List Agent.Far) (qers : List Agent.Qer) (op : Op) (c : Ctx) (ps : List Agent.Pdr) :
    AInv c.st → AInv (modifyFwd cfg fars qers op c ps).1.st :=
  modifyFwd_chain (Chain.inv AInv) cfg fars qers op (fun c p h => prepare_keeps AInv cfg fars qers op c.st p h (addApp_ainv cfg c.st · h) (removeApp_ainv cfg c.st · h))
    (fun c ups => AInv.of_frame (write_frame c ups none)) c ps

@[simp] theorem write_ids (c : Ctx) (ups : List Upd) : (write c ups).1.st.ids = c.st.ids :=
  (write_frame c ups none).proj _

structure IdsInv (st : St) : Prop where
  peers : PInv st
  apps : AInv st

theorem IdsInv.of_frame {g : Option Part} {s s' : St} (h : Frame g s s') (hI : IdsInv s)
    (ep : ∀ t : St, (t.but g).pp = t.pp := by intro; rfl) (ea : ∀ t : St, (t.but g).ap = t.ap := by intro; rfl) : IdsInv s' :=
  ⟨PInv.of_frame h hI.peers ep, AInv.of_frame h hI.apps ea⟩

theorem updatePeers_idsinv (cfg : Cfg4) (c : Ctx) (fs : List Agent.Far) : IdsInv c.st → IdsInv (updatePeers cfg c fs).1.st :=
  fun h => ⟨updatePeers_chain (Chain.inv PInv) cfg (addOrUpdatePeer_pinv cfg) c fs h.peers, AInv.of_frame (updatePeers_eff cfg c fs).1 h.apps⟩

theorem modifyFwd_idsinv (cfg : Cfg4) (fars : List Agent.Far) (qers : List Agent.Qer) (op : Op) (c : Ctx) (ps : List Agent.Pdr) :
    IdsInv c.st → IdsInv (modifyFwd cfg fars qers op c ps).1.st :=
  fun h => ⟨PInv.of_frame (modifyFwd_frame ..) h.peers, modifyFwd_ainv _ _ _ _ _ _ h.apps⟩

theorem sendCreate_idsinv (cfg : Cfg4) (c : Ctx) (all updated : Rules) : IdsInv c.st → IdsInv (sendCreate cfg c all updated).1.st :=
  sendCreate_chain (Chain.inv IdsInv) cfg c c all updated (IdsInv.of_frame (allocCounters_eff ..).1)
    (fun _ => IdsInv.of_frame (updateMaps_frame ..)) (fun _ => IdsInv.of_frame (configureMeters_eff ..).1)
    (fun _ => updatePeers_idsinv _ _ _) (fun _ _ => modifyFwd_idsinv _ _ _ _ _ _)

theorem sendUpdate_idsinv (cfg : Cfg4) (c : Ctx) (all updated : Rules) : IdsInv c.st → IdsInv (sendUpdate cfg c all updated).1.st :=
  sendUpdate_chain (Chain.inv IdsInv) cfg c all updated (fun _ => IdsInv.of_frame (updateMaps_frame ..))
    (fun _ => updatePeers_idsinv _ _ _) (fun _ _ => modifyFwd_idsinv _ _ _ _ _ _)

theorem sendDelete_idsinv (cfg : Cfg4) (c : Ctx) (del : Rules) : IdsInv c.st → IdsInv (sendDelete cfg c del).1.st :=
  sendDelete_chain (Chain.inv IdsInv) cfg c del (fun _ _ => modifyFwd_idsinv _ _ _ _ _ _)
    (fun _ _ => IdsInv.of_frame (release_frame ..)) (fun _ => IdsInv.of_frame (resetMeters_frame ..))
    (fun c f h => ⟨removePeer_pinv cfg c f h.peers, AInv.of_frame (removePeer_frame cfg c f) h.apps⟩)
    (fun _ => IdsInv.of_frame (removeMaps_frame ..))

/-- the queues `start` creates: 2…254 and 1…254, nothing recorded -/
theorem start_idsinv (cfg : Cfg4) (srv : Srv) (injs : List Inj) : IdsInv (start cfg srv injs).1.st := by
  obtain ⟨srv', h | h, -⟩ := start_st cfg srv injs <;> rw [h] <;> exact ⟨⟨nodup_range_add _ 2, nofun, nofun⟩, ⟨nodup_range_add _ 1, nofun, nofun⟩⟩

end Up4
