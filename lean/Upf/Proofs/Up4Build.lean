import Upf.Model.Up4
/-!
The entry builders of p4rt_translator.go in closed form: every field and parameter name they look up exists in the shipped
P4Info, so each builder returns an entry that can be written down. C04 reads the decision logic off these entries, C16
checks them against the P4Info.
-/
namespace Up4
open Agent Gen.P4Constants

theorem buildPeer_eq (id : Nat) (t : TP) :
    buildPeer id t = some
      { table := TablePreQosPipeTunnelPeers, ms := [⟨1, .exact, id, 0, 1⟩], action := ActionPreQosPipeLoadTunnelParam,
        ps := [(1, t.src, 4), (2, t.dst, 4), (3, t.port, 2)] } := by rfl

theorem buildInterface_eq (ip plen slice : Nat) (isCore : Bool) :
    buildInterface ip plen slice isCore = some
      { table := TablePreQosPipeInterfaces, ms := [⟨1, .lpm, ip, plen, 4⟩], action := ActionPreQosPipeSetSourceIface,
        ps := [(1, if isCore then Sdf.core else Sdf.access, 4),
               (2, if isCore then Gen.Consts.DirectionDownlink else Gen.Consts.DirectionUplink, 4), (3, slice, 1)] } := by rfl

theorem buildSessions_uplink (p : Pdr) (m : Meter) (peer : Nat) (buf : Bool) (ha : p.srcIface = Sdf.access) :
    buildSessions p m peer buf = some
      { table := TablePreQosPipeSessionsUplink, ms := [⟨1, .exact, p.tunnelIP4Dst, 0, 4⟩, ⟨2, .exact, p.tunnelTEID, 0, 4⟩],
        action := ActionPreQosPipeSetSessionUplink, ps := [(1, m.ul, 4)] } := by
  unfold buildSessions; rw [if_pos ha]; rfl

theorem buildSessions_downlink (p : Pdr) (m : Meter) (peer : Nat) (buf : Bool) (hc : p.srcIface = Sdf.core) :
    buildSessions p m peer buf = some
      { table := TablePreQosPipeSessionsDownlink, ms := [⟨1, .exact, p.ueAddress, 0, 4⟩],
        action := if buf then ActionPreQosPipeSetSessionDownlinkBuff else ActionPreQosPipeSetSessionDownlink,
        ps := if buf then [(1, m.dl, 4)] else [(1, peer, 1), (2, m.dl, 4)] } := by
  unfold buildSessions; rw [if_neg (by rw [hc]; decide), if_pos hc]; cases buf <;> rfl

theorem buildTerminations_uplink (p : Pdr) (m : Meter) (f : Far) (appID qfi tc : Nat) (q : Qer) (ha : p.srcIface = Sdf.access) :
    buildTerminations p m f appID qfi tc q = some
      { table := TablePreQosPipeTerminationsUplink, ms := [⟨1, .exact, p.ueAddress, 0, 4⟩, ⟨2, .exact, appID, 0, 1⟩],
        action := if drops f || q.ulStatus == gateClosed then ActionPreQosPipeUplinkTermDrop else ActionPreQosPipeUplinkTermFwd,
        ps := if drops f || q.ulStatus == gateClosed then [(1, p.ctrID, 4)] else [(2, tc, 1), (3, m.ul, 4), (1, p.ctrID, 4)] } := by
  unfold buildTerminations; rw [if_pos ha]; dsimp only
  generalize (drops f || q.ulStatus == gateClosed) = drop
  cases drop <;> rfl

theorem buildTerminations_downlink (p : Pdr) (m : Meter) (f : Far) (appID qfi tc : Nat) (q : Qer) (hc : p.srcIface = Sdf.core) :
    buildTerminations p m f appID qfi tc q = some
      { table := TablePreQosPipeTerminationsDownlink, ms := [⟨1, .exact, p.ueAddress, 0, 4⟩, ⟨2, .exact, appID, 0, 1⟩],
        action := if drops f || q.dlStatus == gateClosed then ActionPreQosPipeDownlinkTermDrop else ActionPreQosPipeDownlinkTermFwd,
        ps := if drops f || q.dlStatus == gateClosed then [(1, p.ctrID, 4)]
              else [(2, f.tunnelTEID, 4), (3, qfi, 1), (4, tc, 1), (5, m.dl, 4), (1, p.ctrID, 4)] } := by
  unfold buildTerminations; rw [if_neg (by rw [hc]; decide), if_pos hc]; dsimp only
  generalize (drops f || q.dlStatus == gateClosed) = drop
  cases drop <;> rfl

theorem buildApplicationWith_eq (prio slice appID ip plen lo hi proto mask : Nat) (useLpm useRange useProto : Bool) :
    buildApplicationWith prio slice appID ip plen lo hi proto mask useLpm useRange useProto = some
      { table := TablePreQosPipeApplications, prio := prio, action := ActionPreQosPipeSetAppId,
        ms := ⟨1, .exact, slice, 0, 1⟩ :: ((if useLpm then [⟨2, .lpm, ip, plen, 4⟩] else []) ++
          (if useRange then [⟨3, .range, lo, hi, 2⟩] else []) ++ (if useProto then [⟨4, .ternary, proto, mask, 1⟩] else [])),
        ps := [(1, appID, 1)] } := by
  cases useLpm <;> cases useRange <;> cases useProto <;> rfl

end Up4
