import Upf.Proofs.Store
/-!
Every stored FAR carries the SEID of its session (`FarWf`): `parseFAR` writes it, none of the forwarding-parameter IEs touches it,
`UpdateFAR` replaces a rule by a parsed one. The farLookup key of a rule is built from that SEID, so this is what makes an Update FAR
land on the entry of the rule it updates.
-/
namespace Agent

theorem parseFAR_fse {cfg : Cfg} {seid : Nat} {ie : FarIE} {upd : Bool} {f : Far} (h : parseFAR cfg seid ie upd = .ok f) : f.fseID = seid := by
  unfold parseFAR at h
  by_cases h0 : ie.action % 256 = 0
  · simp only [h0, if_true] at h; cases h
  · simp only [h0, if_false] at h
    (repeat' split at h) <;> cases h <;> first | rfl | exact (applyFwd_keeps _ _ _).1

theorem mapFars_fse {cfg : Cfg} {lseid ip : Nat} {upd : Bool} {ies : List FarIE} {fs : List Far}
    (h : mapFars cfg lseid ip upd ies = .ok fs) : ∀ f ∈ fs, f.fseID = lseid := by
  induction ies generalizing fs with
  | nil => simp only [mapFars, pure, Except.pure] at h; cases h; intro f hf; cases hf
  | cons ie rest ih =>
    unfold mapFars at h
    cases hp : parseFAR cfg lseid ie upd with
    | error e => simp [hp, bind, Except.bind] at h
    | ok f0 =>
      cases hr : mapFars cfg lseid ip upd rest with
      | error e => simp [hp, hr, bind, Except.bind] at h
      | ok fs0 =>
        simp only [hp, hr, bind, Except.bind, pure, Except.pure] at h
        cases h
        exact List.forall_mem_cons.mpr ⟨parseFAR_fse (f := f0) hp, ih hr⟩

/-- every stored FAR carries the SEID of its session (what `parseFAR` writes and `UpdateFAR` keeps) -/
def FarWf (w : World) : Prop := ∀ s ∈ allSessions w, ∀ q ∈ s.fars, q.fseID = s.lseid

theorem FarWf.of_trans {w w' : World} {old new : List Session} (hW : FarWf w) (T : Trans w w' old new)
    (h : ∀ s ∈ new, ∀ q ∈ s.fars, q.fseID = s.lseid) : FarWf w' :=
  fun s hs => (T.mem_before hs).elim (h s) (hW s)

theorem FarWf.start (pool : Option Pool.P) (g : Teid.G) : FarWf { pool := pool, teid := g } := by
  intro s hs; simp [allSessions, flat] at hs

theorem establish_farWf (cfg : Cfg) (w : World) (a lseid : Nat) (r : EstReq) (hk : (w.conns.map (·.1)).Nodup) (hW : FarWf w) :
    FarWf (establish cfg w a lseid r).1 := by
  rcases establish_cases cfg w a lseid r with e | ⟨_, e⟩ | ⟨fars, s, hf, hs, e⟩ <;> rw [e]
  · exact hW
  · exact hW
  · refine hW.of_trans (.append hk rfl) fun x hx => ?_
    rw [List.mem_singleton.mp hx, hs]
    exact mapFars_fse hf

end Agent
