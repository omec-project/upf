import Upf.Proofs.Store
import Upf.Proofs.AgentPool
/-!
C05 / C06 at the level of the agent: every held address is held by a stored session — none is leaked, whichever way sessions end
and wherever an establishment is refused — across every store transition.
-/
namespace Agent

/-- every held address is held under the SEID of a stored session -/
def Owned (w : World) : Prop := ∀ k ∈ poolKeys w.pool, ∃ s ∈ allSessions w, s.lseid = k

theorem Owned.start (base : List Nat) (g : Teid.G) : Owned { pool := some { free := base, inv := [] }, teid := g } := by
  intro k hk; simp [poolKeys] at hk

theorem Owned.of_trans {w w' : World} {old new : List Session} (hO : Owned w) (T : Trans w w' old new)
    (h : ∀ k ∈ poolKeys w'.pool, (∃ s ∈ new, s.lseid = k) ∨ (k ∈ poolKeys w.pool ∧ ∀ s ∈ old, s.lseid ≠ k)) : Owned w' := by
  intro k hk
  rcases h k hk with ⟨s, hs, hl⟩ | ⟨hk', hne⟩
  · exact ⟨s, T.mem_new hs, hl⟩
  · obtain ⟨s, hs, hl⟩ := hO k hk'
    exact ⟨s, (T.mem_after hs).resolve_left fun ho => hne s ho hl, hl⟩

theorem Owned.replace {w w' : World} {s0 s' : Session} (hO : Owned w) (T : Trans w w' [s0] [s']) (hl : s'.lseid = s0.lseid)
    (hk : ∀ k ∈ poolKeys w'.pool, k ∈ poolKeys w.pool ∨ k = s0.lseid) : Owned w' :=
  hO.of_trans T fun k hk' => by
    by_cases e : k = s0.lseid
    · exact .inl ⟨s', List.mem_cons_self, hl.trans e.symm⟩
    · exact .inr ⟨(hk k hk').resolve_right e, fun s hs hs' => e (by rw [← hs', List.mem_singleton.mp hs])⟩

theorem establish_owned (cfg : Cfg) (w : World) (a lseid : Nat) (r : EstReq) (hk : (w.conns.map (·.1)).Nodup) (hO : Owned w) :
    Owned (establish cfg w a lseid r).1 := by
  have hloop := estPdrs_pool cfg lseid r.cpIP (w.conn a).apps r.pdrs w.pool w.teid []
  rcases establish_cases cfg w a lseid r with h | ⟨_, h⟩ | ⟨fars, s, _, hs, h⟩ <;> rw [h]
  · exact hO
  · -- what the loop took for `lseid` is released again
    refine hO.of_trans (.of_conns_eq hk rfl) fun k hk' => .inr ⟨?_, nofun⟩
    obtain ⟨h1, h2⟩ := poolKeys_freeAddr _ lseid k hk'
    exact (hloop.keys k h1).resolve_right h2
  · refine hO.of_trans (.append hk rfl) fun k hk' => ?_
    exact (hloop.keys k hk').elim (fun h => .inr ⟨h, nofun⟩) fun e => .inl ⟨s, List.mem_cons_self, by rw [e, hs]; rfl⟩

theorem Owned.ends {cfg : Cfg} {w w' : World} {ss : List Session} (hO : Owned w) (E : Ends cfg w w' ss) : Owned w' :=
  hO.of_trans E.toTrans fun k hk => by
    rw [E.drops] at hk
    obtain ⟨h1, h2⟩ := poolKeys_foldl_freeAddr ss w.pool k hk
    exact .inr ⟨h1, fun s hs e => h2 s hs e.symm⟩

end Agent
