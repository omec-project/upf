import Upf.Proofs.Store
import Upf.Proofs.BessTables
/-!
C03 on the agent model: the four lookup tables, read as maps, are the image of the stored sessions (`Inv`), across every store
transition (`Inv.of_trans`): establishments, sessions ending; the shapes `ImgOf.upsert` / `ImgOf.delete` serve the modifications.
-/
namespace Agent

/-- two stored sessions never share a SEID or a key of any lookup table (the envelope of C03: unambiguous rule sets) -/
def Disj (cfg : Cfg) (s1 s2 : Session) : Prop :=
  s1.lseid ≠ s2.lseid ∧ (∀ k ∈ s1.keysOf cfg .pdr, k ∉ s2.keysOf cfg .pdr) ∧ (∀ k ∈ s1.keysOf cfg .far, k ∉ s2.keysOf cfg .far) ∧
  (∀ k ∈ s1.keysOf cfg .app, k ∉ s2.keysOf cfg .app) ∧ (∀ k ∈ s1.keysOf cfg .sess, k ∉ s2.keysOf cfg .sess)

-- one conjunct per table rather than `∀ X : Tb`, so that this instance is found; C03 decides `Disj` of concrete sessions by `decide +kernel`
instance (cfg : Cfg) (s1 s2 : Session) : Decidable (Disj cfg s1 s2) := by unfold Disj; infer_instance

theorem Disj.lseid_ne {cfg : Cfg} {s1 s2 : Session} (h : Disj cfg s1 s2) : s1.lseid ≠ s2.lseid := h.1

theorem Disj.keys {cfg : Cfg} {s1 s2 : Session} (h : Disj cfg s1 s2) (X : Tb) (k : String) (h1 : k ∈ s1.keysOf cfg X) : k ∉ s2.keysOf cfg X := by
  cases X
  · exact h.2.1 k h1
  · exact h.2.2.1 k h1
  · exact h.2.2.2.1 k h1
  · exact h.2.2.2.2 k h1

theorem Disj.of_keys {cfg : Cfg} {s1 s2 : Session} (hl : s1.lseid ≠ s2.lseid)
    (hk : ∀ X, ∀ k ∈ s1.keysOf cfg X, k ∉ s2.keysOf cfg X) : Disj cfg s1 s2 := ⟨hl, hk .pdr, hk .far, hk .app, hk .sess⟩

theorem Disj.symm {cfg : Cfg} {s1 s2 : Session} (h : Disj cfg s1 s2) : Disj cfg s2 s1 :=
  .of_keys h.lseid_ne.symm fun X k h2 h1 => h.keys X k h1 h2

theorem Disj.pairwise_perm {cfg : Cfg} {l l' : List Session} (p : l.Perm l') (h : l.Pairwise (Disj cfg)) : l'.Pairwise (Disj cfg) :=
  (p.pairwise_iff (fun hxy => Disj.symm hxy)).mp h

/-- the rules of the session have pairwise different keys in every lookup table (the envelope of C03: an unambiguous rule set) -/
def SelfNodup (cfg : Cfg) (s : Session) : Prop := ∀ X, (s.keysOf cfg X).Nodup

/-- the tables ARE the image: under every key of every lookup table lies exactly the value the owning stored session's
rules denote, and nothing lies under a key no stored session has -/
def ImgOf (cfg : Cfg) (t : Tables) (ss : List Session) : Prop :=
  ∀ X k v, (t.tab X).get k = some v ↔ ∃ s ∈ ss, lastVal (s.kv cfg X) k = some v

theorem ImgOf.perm {cfg : Cfg} {t : Tables} {ss ss' : List Session} (h : ImgOf cfg t ss) (p : ss.Perm ss') : ImgOf cfg t ss' := by
  intro X k v
  rw [h X k v]
  constructor <;> rintro ⟨s, hs, hv⟩
  · exact ⟨s, p.mem_iff.mp hs, hv⟩
  · exact ⟨s, p.mem_iff.mpr hs, hv⟩

/-- for sessions with pairwise different keys, the one value the key has (`ImgOf.iff_val`) -/
def valOf (cfg : Cfg) (ss : List Session) (X : Tb) (k : String) : Option String := ss.findSome? fun s => lastVal (s.kv cfg X) k

theorem valOf_cons (cfg : Cfg) (s : Session) (ss : List Session) (X : Tb) (k : String) :
    valOf cfg (s :: ss) X k = (lastVal (s.kv cfg X) k).or (valOf cfg ss X k) := by
  unfold valOf; rw [List.findSome?_cons]; cases lastVal (s.kv cfg X) k <;> rfl

theorem valOf_single (cfg : Cfg) (s : Session) (X : Tb) (k : String) : valOf cfg [s] X k = lastVal (s.kv cfg X) k := by
  rw [valOf_cons]; exact Option.or_none

theorem valOf_append (cfg : Cfg) (l l' : List Session) (X : Tb) (k : String) :
    valOf cfg (l ++ l') X k = (valOf cfg l X k).or (valOf cfg l' X k) := List.findSome?_append

theorem valOf_none {cfg : Cfg} {ss : List Session} {X : Tb} {k : String} (h : ∀ s ∈ ss, k ∉ s.keysOf cfg X) : valOf cfg ss X k = none :=
  List.findSome?_eq_none_iff.mpr fun s hs => lastVal_eq_none (h s hs)

theorem valOf_eq_some_iff {cfg : Cfg} {ss : List Session} (hp : ss.Pairwise (Disj cfg)) (X : Tb) (k v : String) :
    valOf cfg ss X k = some v ↔ ∃ s ∈ ss, lastVal (s.kv cfg X) k = some v := by
  induction ss with
  | nil => simp [valOf]
  | cons s ss ih =>
    obtain ⟨hd, hp'⟩ := List.pairwise_cons.mp hp
    simp only [valOf_cons, List.mem_cons, exists_eq_or_imp, ← ih hp']
    cases hs : lastVal (s.kv cfg X) k with
    | none => simp
    | some v' =>
      have : valOf cfg ss X k = none := valOf_none fun x hx => (hd x hx).keys X k (key_of_lastVal hs)
      simp [this]

theorem ImgOf.iff_val {cfg : Cfg} {t : Tables} {ss : List Session} (hp : ss.Pairwise (Disj cfg)) :
    ImgOf cfg t ss ↔ ∀ X k, (t.tab X).get k = valOf cfg ss X k :=
  ⟨fun h X k => Option.ext fun v => (h X k v).trans (valOf_eq_some_iff hp X k v).symm, fun h X k v => by rw [h]; exact valOf_eq_some_iff hp X k v⟩

/-- the rules a message adds or deletes, as a session: `ImgOf.upsert`, `ImgOf.delete`, `ImgOf.remove` read only their `kv` -/
abbrev Session.ofRules (pdrs : List Pdr) (fars : List Far) (qers : List Qer) : Session := ⟨0, 0, pdrs, fars, qers⟩

theorem ImgOf.upsert {cfg : Cfg} {t : Tables} (old new : List Session) {R : List Session} (C : Session) (h : ImgOf cfg t (old ++ R))
    (hp : (old ++ R).Pairwise (Disj cfg)) (hp' : (new ++ R).Pairwise (Disj cfg))
    (hv : ∀ X k, valOf cfg new X k = (lastVal (C.kv cfg X) k).or (valOf cfg old X k)) :
    ImgOf cfg (sendAdd cfg t C.pdrs C.fars C.qers) (new ++ R) := by
  rw [ImgOf.iff_val hp']
  intro X k
  rw [get_sendAdd, (ImgOf.iff_val hp).mp h, valOf_append, valOf_append, hv, Option.or_assoc]

theorem ImgOf.delete {cfg : Cfg} {t : Tables} (old new : List Session) {R : List Session} (D : Session) (h : ImgOf cfg t (old ++ R))
    (hR : ∀ x ∈ R, ∀ X, ∀ k ∈ D.keysOf cfg X, k ∉ x.keysOf cfg X)
    (hv : ∀ X k v, (∃ s ∈ new, lastVal (s.kv cfg X) k = some v) ↔ k ∉ D.keysOf cfg X ∧ ∃ s ∈ old, lastVal (s.kv cfg X) k = some v) :
    ImgOf cfg (sendDel cfg t D.pdrs D.fars D.qers) (new ++ R) := by
  intro X k v
  rw [get_sendDel]
  simp only [List.mem_append, or_and_right, exists_or, hv]
  split
  · rename_i hk
    refine ⟨nofun, ?_⟩
    rintro (⟨hk', _⟩ | ⟨x, hx, hxv⟩)
    · exact absurd hk hk'
    · exact absurd (key_of_lastVal hxv) (hR x hx X k hk)
  · rename_i hk
    rw [h X k v]
    simp only [List.mem_append, or_and_right, exists_or, hk, not_false_eq_true, true_and]

theorem ImgOf.addSession {cfg : Cfg} {t : Tables} {ss : List Session} (h : ImgOf cfg t ss) (s : Session)
    (hp : (s :: ss).Pairwise (Disj cfg)) : ImgOf cfg (sendAdd cfg t s.pdrs s.fars s.qers) (s :: ss) :=
  ImgOf.upsert [] [s] s h (List.pairwise_cons.mp hp).2 hp fun X k => valOf_cons cfg s [] X k

theorem ImgOf.delSession {cfg : Cfg} {t : Tables} {ss : List Session} (s : Session) (h : ImgOf cfg t (s :: ss))
    (hd : ∀ s' ∈ ss, Disj cfg s s') : ImgOf cfg (sendDel cfg t s.pdrs s.fars s.qers) ss :=
  ImgOf.delete [s] [] s h (fun x hx X => (hd x hx).keys X) fun _ _ _ =>
    ⟨nofun, fun ⟨hk, _, hs, hv⟩ => absurd (key_of_lastVal (List.mem_singleton.mp hs ▸ hv)) hk⟩

theorem ImgOf.delSessions {cfg : Cfg} : ∀ (ss rest : List Session) (t : Tables), ImgOf cfg t (ss ++ rest) → (ss ++ rest).Pairwise (Disj cfg) →
    ImgOf cfg (ss.foldl (fun t s => sendDel cfg t s.pdrs s.fars s.qers) t) rest
  | [], _, _, h, _ => h
  | s :: ss, rest, _, h, hp => ImgOf.delSessions ss rest _ (ImgOf.delSession s h (List.pairwise_cons.mp hp).1) (List.pairwise_cons.mp hp).2

/-- association indices are distinct, stored sessions share neither SEID nor key, and the tables are the image of the stored sessions -/
structure Inv (cfg : Cfg) (w : World) : Prop where
  keys : (w.conns.map (·.1)).Nodup
  disj : (allSessions w).Pairwise (Disj cfg)
  img : ImgOf cfg w.tables (allSessions w)

theorem Inv.of_trans {cfg : Cfg} {w w' : World} {old new : List Session} (hI : Inv cfg w) (T : Trans w w' old new)
    (h : ∀ R, (∀ x ∈ R, x ∈ allSessions w) → (old ++ R).Pairwise (Disj cfg) → ImgOf cfg w.tables (old ++ R) →
      (new ++ R).Pairwise (Disj cfg) ∧ ImgOf cfg w'.tables (new ++ R)) : Inv cfg w' := by
  obtain ⟨R, p, p'⟩ := T.perm
  obtain ⟨hp, hi⟩ := h R (fun x hx => p.mem_iff.mpr (List.mem_append_right _ hx)) (Disj.pairwise_perm p hI.disj) (hI.img.perm p)
  exact ⟨T.keys, Disj.pairwise_perm p'.symm hp, hi.perm p'.symm⟩

theorem Inv.congr {cfg : Cfg} {w w' : World} (h : Inv cfg w) (hc : w'.conns = w.conns) (ht : w'.tables = w.tables) : Inv cfg w' :=
  h.of_trans (.of_conns_eq h.keys hc) fun _ _ hp hi => ⟨hp, ht ▸ hi⟩

theorem Inv.get_of_mem {cfg : Cfg} {w : World} (hI : Inv cfg w) {s : Session} (hs : s ∈ allSessions w) (X : Tb)
    (hnd : (s.keysOf cfg X).Nodup) {e : String × String} (hm : e ∈ s.kv cfg X) : (w.tables.tab X).get e.1 = some e.2 :=
  (hI.img X _ _).mpr ⟨s, hs, (lastVal_eq_some_iff_mem hnd).mpr hm⟩

theorem Inv.storeWf {cfg : Cfg} {w : World} (hI : Inv cfg w) : StoreWf w :=
  ⟨hI.keys, fun a => (List.pairwise_append.mp (Disj.pairwise_perm (flat_setL a w.conns hI.keys).1 hI.disj)).1.imp Disj.lseid_ne⟩

/-- the session an accepted establishment stored: the one with the drawn SEID in the association's store afterwards -/
def newSession (cfg : Cfg) (w : World) (a lseid : Nat) (r : EstReq) : Option Session :=
  ((establish cfg w a lseid r).1.conn a).sessions.find? (·.lseid = lseid)

theorem establish_inv (cfg : Cfg) (w : World) (a lseid : Nat) (r : EstReq) (hI : Inv cfg w)
    (henv : (establish cfg w a lseid r).2.upSeid.isSome → ∀ s : Session, newSession cfg w a lseid r = some s → ∀ s' ∈ allSessions w, Disj cfg s s') :
    Inv cfg (establish cfg w a lseid r).1 := by
  rcases establish_cases cfg w a lseid r with e | ⟨_, e⟩ | ⟨fars, s, _, hs, e⟩
  · rw [e]; exact hI
  · rw [e]; exact hI.congr rfl rfl
  · have hl : s.lseid = lseid := by rw [hs]; rfl
    -- `newSession` finds an old session with this SEID if there is one (excluded by the envelope), else `s`
    have hns : newSession cfg w a lseid r = ((w.conn a).sessions.find? (·.lseid = lseid)).or (some s) := by
      unfold newSession; rw [e, World.conn_setL, List.find?_append]; simp [hl]
    have hd : ∀ s' ∈ allSessions w, Disj cfg s s' := by
      have hacc : (establish cfg w a lseid r).2.upSeid.isSome := by rw [e]; rfl
      cases hold : (w.conn a).sessions.find? (·.lseid = lseid) with
      | some old =>
        exact absurd rfl (henv hacc old (by rw [hns, hold]; rfl) old (mem_conn_all hI.keys (List.mem_of_find?_eq_some hold))).1
      | none => exact henv hacc s (by rw [hns, hold]; rfl)
    rw [e]
    exact hI.of_trans (.append hI.keys rfl) fun R hR hp hi =>
      have hp' : (s :: R).Pairwise (Disj cfg) := List.pairwise_cons.mpr ⟨fun x hx => hd x (hR x hx), hp⟩
      ⟨hp', hi.addSession s hp'⟩

theorem Inv.ends {cfg : Cfg} {w w' : World} {ss : List Session} (hI : Inv cfg w) (E : Ends cfg w w' ss) : Inv cfg w' :=
  hI.of_trans E.toTrans fun R _ hp hi =>
    ⟨(List.pairwise_append.mp hp).2.1, by rw [E.drops]; exact ImgOf.delSessions _ _ _ hi hp⟩

theorem Disj.pairwise_replace {cfg : Cfg} {s0 : Session} (s' : Session) {R : List Session} (h : (s0 :: R).Pairwise (Disj cfg)) (hl : s'.lseid = s0.lseid)
    (hk : ∀ x ∈ R, ∀ X, ∀ k ∈ s'.keysOf cfg X, k ∈ s0.keysOf cfg X ∨ k ∉ x.keysOf cfg X) : (s' :: R).Pairwise (Disj cfg) := by
  obtain ⟨hd, hR⟩ := List.pairwise_cons.mp h
  exact List.pairwise_cons.mpr ⟨fun x hx => .of_keys (hl ▸ (hd x hx).lseid_ne) fun X k hk' =>
    (hk x hx X k hk').elim ((hd x hx).keys X k) id, hR⟩

theorem Inv.replace {cfg : Cfg} {w w' : World} {s0 s' : Session} (hI : Inv cfg w) (T : Trans w w' [s0] [s']) (hl : s'.lseid = s0.lseid)
    (hk : ∀ x ∈ allSessions w, Disj cfg s0 x → ∀ X, ∀ k ∈ s'.keysOf cfg X, k ∈ s0.keysOf cfg X ∨ k ∉ x.keysOf cfg X)
    (hi : ∀ R, (s0 :: R).Pairwise (Disj cfg) → (s' :: R).Pairwise (Disj cfg) → ImgOf cfg w.tables (s0 :: R) → ImgOf cfg w'.tables (s' :: R)) :
    Inv cfg w' :=
  hI.of_trans T fun R hR hp h =>
    have hp' := Disj.pairwise_replace s' hp hl fun x hx => hk x (hR x hx) ((List.pairwise_cons.mp hp).1 x hx)
    ⟨hp', hi R hp hp' h⟩

theorem get_foldl_sendAdd (cfg : Cfg) : ∀ (ss : List Session) (t : Tables) (X : Tb) (k : String),
    ((ss.foldl (fun t s => sendAdd cfg t s.pdrs s.fars s.qers) t).tab X).get k = (valOf cfg ss.reverse X k).or ((t.tab X).get k)
  | [], _, _, _ => rfl
  | s :: ss, t, X, k => by
    rw [List.foldl_cons, get_foldl_sendAdd cfg ss, get_sendAdd, List.reverse_cons, valOf_append, valOf_single, Option.or_assoc]

theorem Inv.get_image (cfg : Cfg) (w : World) (hI : Inv cfg w) (X : Tb) (k : String) :
    (w.tables.tab X).get k = ((image cfg w).tab X).get k := by
  have hr := Disj.pairwise_perm (List.reverse_perm _).symm hI.disj
  have him : ImgOf cfg (image cfg w) (allSessions w).reverse := (ImgOf.iff_val hr).mpr fun X k => by
    refine (get_foldl_sendAdd cfg _ _ X k).trans ?_
    -- `image` starts from empty tables; that reading one gives `none` reduces only once the table is named
    cases X <;> exact Option.or_none
  rw [(ImgOf.iff_val hI.disj).mp hI.img, (ImgOf.iff_val hI.disj).mp (him.perm (List.reverse_perm _))]

/-- a new incarnation: `clearState` wiped the lookup tables -/
theorem Inv.start (cfg : Cfg) (pool : Option Pool.P) (g : Teid.G) : Inv cfg { pool := pool, teid := g } :=
  ⟨by simp, by simp [allSessions, flat], fun X k v => by cases X <;> simp [allSessions, flat, Tables.tab, Table.get]⟩

end Agent
