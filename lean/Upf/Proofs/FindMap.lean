/-! Lists of keyed entries: `find?` after the entries were rewritten in place (the association list, the sessions of an association, the
stored FARs and the lookup tables are all rewritten by a function that keeps what the test says of each entry), after new entries were
appended, and the split `eraseP` makes. -/

/-- what is found under a key has that key -/
theorem key_of_find? {α κ : Type} [DecidableEq κ] {key : α → κ} {k : κ} {l : List α} {x : α}
    (h : l.find? (fun x => decide (key x = k)) = some x) : key x = k := by simpa using List.find?_some h

theorem find?_map_test {α : Type} (p : α → Bool) (g : α → α) (hg : ∀ x, p (g x) = p x) (l : List α) :
    (l.map g).find? p = (l.find? p).map g := by
  rw [List.find?_map]; exact congrArg (fun q => (l.find? q).map g) (funext hg)

theorem find?_replace_key {α κ : Type} [DecidableEq κ] (key : α → κ) (k : κ) (v : α) (hv : key v = k) (l : List α)
    (h : l.any (fun x => decide (key x = k)) = true) :
    (l.map fun x => if key x = k then v else x).find? (fun x => decide (key x = k)) = some v := by
  rw [find?_map_test _ _ (fun x => by split <;> simp [*]) l]
  obtain ⟨x, hx⟩ := Option.isSome_iff_exists.mp (List.find?_isSome.mpr (List.any_eq_true.mp h))
  rw [hx]
  exact congrArg some (if_pos (key_of_find? hx))

theorem find?_replace_key_ne {α κ : Type} [DecidableEq κ] (key : α → κ) (k k' : κ) (v : α) (hv : key v = k) (hne : k' ≠ k) (l : List α) :
    (l.map fun x => if key x = k then v else x).find? (fun x => decide (key x = k')) = l.find? (fun x => decide (key x = k')) := by
  rw [find?_map_test _ _ (fun x => by split <;> simp [*]) l]
  cases hx : l.find? (fun x => decide (key x = k')) with
  | none => rfl
  | some x => exact congrArg some (if_neg fun e => hne ((key_of_find? hx).symm.trans e))

theorem map_replace_key_absent {α κ : Type} [DecidableEq κ] (key : α → κ) (k : κ) (v : α) (l : List α) (h : k ∉ l.map key) :
    (l.map fun x => if key x = k then v else x) = l :=
  (List.map_congr_left fun x hx => if_neg fun e : key x = k => h (e ▸ List.mem_map_of_mem hx)).trans (List.map_id' l)

theorem isSome_find?_key {α κ : Type} [DecidableEq κ] (key : α → κ) (k : κ) (l : List α) :
    (l.find? fun x => decide (key x = k)).isSome = true ↔ ∃ x ∈ l, key x = k := by
  rw [List.find?_isSome]; simp

theorem find?_append_of_new {α : Type} (idOf : α → Nat) {st c : List α} (hnew : ∀ p ∈ c, ∀ q ∈ st, idOf q ≠ idOf p) (hnd : (c.map idOf).Nodup)
    {p : α} (hp : p ∈ c) : (st ++ c).find? (fun q => idOf q = idOf p) = some p := by
  rw [List.find?_append, List.find?_eq_none.mpr (fun q hq => by simpa using hnew p hp q hq), Option.none_or]
  induction c with
  | nil => cases hp
  | cons x rest ih =>
    obtain ⟨hx, hnd'⟩ := List.nodup_cons.mp hnd
    rcases List.mem_cons.mp hp with rfl | hp'
    · simp
    · have hne : idOf x ≠ idOf p := fun e => hx (e ▸ List.mem_map_of_mem hp')
      simp only [List.find?_cons, hne, decide_false]
      exact ih (fun p hp q hq => hnew p (List.mem_cons_of_mem _ hp) q hq) hnd' hp'

theorem find?_eraseP_perm {α : Type} (p : α → Bool) : ∀ (l : List α) (x : α), l.find? p = some x → l.Perm (x :: l.eraseP p)
  | y :: ys, x, h => by
    rw [List.find?_cons] at h
    cases hy : p y with
    | true => rw [hy] at h; cases h; rw [List.eraseP_cons_of_pos hy]
    | false =>
      rw [hy] at h
      rw [List.eraseP_cons_of_neg (by simp [hy])]
      exact ((find?_eraseP_perm p ys x h).cons y).trans (.swap x y _)
