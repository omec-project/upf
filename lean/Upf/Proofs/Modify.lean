import Upf.Proofs.AgentWorld
/-!
`Agent.modify` in three stages — parse the Create / Update IEs (only the address pool moves), apply them to the session's rule
lists and mark (what is sent to the datapath and which end markers go out is decided here), remove — and the handler's result in
closed form over them (`modify_eq`). Everything else that is proved about `modify` goes through this file.
-/
namespace Agent

/-- the control plane's SEID for the session after this request: the one the request brings, else the stored one -/
def cpSeidAfter (r : ModReq) (s0 : Session) : Nat := match r.cpFseid with | some (cp, _) => cp | none => s0.rseid

/-- the address the created / updated rules get as F-SEID address: the one a CP F-SEID of this request brings, else 0 -/
def fseidIPOf (r : ModReq) : Nat := match r.cpFseid with | some (_, ip) => ip | none => 0

theorem modify_eq_unknown (cfg : Cfg) {w : World} {a : Nat} {r : ModReq}
    (h : (w.conn a).sessions.find? (·.lseid = r.seid) = none) :
    modify cfg w a r = { world := w, reply := { cause := causeRejected, seid := 0 } } := by
  unfold modify; simp only [h]

structure ModParsed where
  cp : List Pdr
  cf : List Far
  up : List Pdr
  uf : List Far

def parsedQers (r : ModReq) (ies : List QerIE) : List Qer := ies.map fun ie => { parseQER r.seid ie with fseidIP := fseidIPOf r }

/-- the pool is returned in every case, as far as the `parsePdrs` runs took it: an address allocated before the refusal stays allocated -/
def parseMod (cfg : Cfg) (apps : List (String × List String)) (pool : Option Pool.P) (r : ModReq) : Option ModParsed × Option Pool.P :=
  match parsePdrs r.seid (fseidIPOf r) apps r.createPdrs pool with
  | .error (_, pool) => (none, pool)
  | .ok (cp, pool) =>
  match mapFars cfg r.seid (fseidIPOf r) false r.createFars with
  | .error _ => (none, pool)
  | .ok cf =>
  match parsePdrs r.seid (fseidIPOf r) apps r.updatePdrs pool with
  | .error (_, pool) => (none, pool)
  | .ok (up, pool) =>
  match mapFars cfg r.seid (fseidIPOf r) true r.updateFars with
  | .error _ => (none, pool)
  | .ok uf => (some ⟨cp, cf, up, uf⟩, pool)

theorem parseMod_eq_some_iff {cfg : Cfg} {apps : List (String × List String)} {pool pool2 : Option Pool.P} {r : ModReq}
    {cp up : List Pdr} {cf uf : List Far} :
    parseMod cfg apps pool r = (some ⟨cp, cf, up, uf⟩, pool2) ↔ ∃ pool1,
      parsePdrs r.seid (fseidIPOf r) apps r.createPdrs pool = .ok (cp, pool1) ∧
      mapFars cfg r.seid (fseidIPOf r) false r.createFars = .ok cf ∧
      parsePdrs r.seid (fseidIPOf r) apps r.updatePdrs pool1 = .ok (up, pool2) ∧
      mapFars cfg r.seid (fseidIPOf r) true r.updateFars = .ok uf := by
  unfold parseMod
  constructor
  · intro h
    repeat' split at h
    all_goals cases h
    exact ⟨_, ‹_›, ‹_›, ‹_›, ‹_›⟩
  · rintro ⟨pool1, h1, h2, h3, h4⟩
    simp only [h1, h2, h3, h4]

/-- a case distinction on `parseMod`'s result is the handler's chain of four early exits -/
theorem parseMod_match {β : Sort _} (cfg : Cfg) (apps : List (String × List String)) (pool : Option Pool.P) (r : ModReq)
    (rej : Option Pool.P → β) (k : ModParsed → Option Pool.P → β) :
    (match parseMod cfg apps pool r with | (none, pool) => rej pool | (some p, pool) => k p pool) =
    match parsePdrs r.seid (fseidIPOf r) apps r.createPdrs pool with
    | .error (_, pool) => rej pool
    | .ok (cp, pool) =>
    match mapFars cfg r.seid (fseidIPOf r) false r.createFars with
    | .error _ => rej pool
    | .ok cf =>
    match parsePdrs r.seid (fseidIPOf r) apps r.updatePdrs pool with
    | .error (_, pool) => rej pool
    | .ok (up, pool) =>
    match mapFars cfg r.seid (fseidIPOf r) true r.updateFars with
    | .error _ => rej pool
    | .ok uf => k ⟨cp, cf, up, uf⟩ pool := by
  unfold parseMod
  cases parsePdrs r.seid (fseidIPOf r) apps r.createPdrs pool with
  | error e => rfl
  | ok v =>
    obtain ⟨cp, pool1⟩ := v
    dsimp only
    cases mapFars cfg r.seid (fseidIPOf r) false r.createFars with
    | error e => rfl
    | ok cf =>
      dsimp only
      cases parsePdrs r.seid (fseidIPOf r) apps r.updatePdrs pool1 with
      | error e => rfl
      | ok v =>
        obtain ⟨up, pool2⟩ := v
        dsimp only
        cases mapFars cfg r.seid (fseidIPOf r) true r.updateFars <;> rfl

def poolOut : Except (PErr × Option Pool.P) (List Pdr × Option Pool.P) → Option Pool.P
  | .ok (_, pool) => pool
  | .error (_, pool) => pool

theorem parseMod_snd (cfg : Cfg) (apps : List (String × List String)) (pool : Option Pool.P) (r : ModReq) :
    (parseMod cfg apps pool r).2 = poolOut (parsePdrs r.seid (fseidIPOf r) apps r.createPdrs pool) ∨
    ∃ cp pool1, parsePdrs r.seid (fseidIPOf r) apps r.createPdrs pool = .ok (cp, pool1) ∧
      (parseMod cfg apps pool r).2 = poolOut (parsePdrs r.seid (fseidIPOf r) apps r.updatePdrs pool1) := by
  have e : (parseMod cfg apps pool r).2 = _ :=
    (by rcases parseMod cfg apps pool r with ⟨_ | _, _⟩ <;> rfl : _ = match parseMod cfg apps pool r with | (none, p) => p | (some _, p) => p).trans
      (parseMod_match cfg apps pool r (fun p => p) fun _ p => p)
  rw [e]
  cases parsePdrs r.seid (fseidIPOf r) apps r.createPdrs pool with
  | error e => exact .inl rfl
  | ok v =>
    cases mapFars cfg r.seid (fseidIPOf r) false r.createFars with
    | error e => exact .inl rfl
    | ok cf =>
      refine .inr ⟨v.1, v.2, rfl, ?_⟩
      dsimp only
      cases parsePdrs r.seid (fseidIPOf r) apps r.updatePdrs v.2 with
      | error e => rfl
      | ok v2 => dsimp only; cases mapFars cfg r.seid (fseidIPOf r) true r.updateFars <;> rfl

/-- the session's rule lists after the Create and Update IEs and `MarkSessionQer`, the rules sent to the datapath
(the copies carry the marked level / the reordered QER lists), and the end markers -/
structure ModApplied where
  pdrs : List Pdr
  fars : List Far
  qers : List Qer
  addP : List Pdr
  addF : List Far
  addQ : List Qer
  markers : List Marker

def applyMod (cfg : Cfg) (r : ModReq) (s : Session) (p : ModParsed) : ModApplied :=
  let P := updPdrs (s.pdrs ++ p.cp) p.up
  let F := updFars (s.fars ++ p.cf) p.uf
  let Q := updQers (s.qers ++ parsedQers r r.createQers) (parsedQers r r.updateQers)
  let marked := markSessionQer P.1 Q.1
  { pdrs := marked.2, fars := F.1, qers := marked.1,
    addP := (p.cp ++ P.2).map (withMarkedLists marked.2), addF := p.cf ++ F.2.1,
    addQ := (parsedQers r r.createQers ++ Q.2).map (withMarkedLevel marked.1),
    markers := if cfg.endMarker then F.2.2 else [] }

structure ModRemoved where
  pdrs : List Pdr
  fars : List Far
  qers : List Qer
  delP : List Pdr
  delF : List Far
  delQ : List Qer

def removeMod (r : ModReq) (pdrs : List Pdr) (fars : List Far) (qers : List Qer) : Option ModRemoved :=
  match removeAll (·.pdrID) pdrs r.removePdrs with
  | none => none
  | some (pdrs2, delP) =>
  match removeAll (·.farID) fars r.removeFars with
  | none => none
  | some (fars2, delF) =>
  match removeAll (·.qerID) qers r.removeQers with
  | none => none
  | some (qers2, delQ) => some ⟨pdrs2, fars2, qers2, delP, delF, delQ⟩

theorem removeMod_eq_some_iff {r : ModReq} {pdrs : List Pdr} {fars : List Far} {qers : List Qer}
    {pdrs' delP : List Pdr} {fars' delF : List Far} {qers' delQ : List Qer} :
    removeMod r pdrs fars qers = some ⟨pdrs', fars', qers', delP, delF, delQ⟩ ↔
      removeAll (·.pdrID) pdrs r.removePdrs = some (pdrs', delP) ∧
      removeAll (·.farID) fars r.removeFars = some (fars', delF) ∧
      removeAll (·.qerID) qers r.removeQers = some (qers', delQ) := by
  unfold removeMod
  constructor
  · intro h
    repeat' split at h
    all_goals cases h
    exact ⟨‹_›, ‹_›, ‹_›⟩
  · rintro ⟨h1, h2, h3⟩
    simp only [h1, h2, h3]

theorem removeMod_match {β : Sort _} (r : ModReq) (pdrs : List Pdr) (fars : List Far) (qers : List Qer) (rej : β) (k : ModRemoved → β) :
    (match removeMod r pdrs fars qers with | none => rej | some x => k x) =
    match removeAll (·.pdrID) pdrs r.removePdrs with
    | none => rej
    | some (pdrs2, delP) =>
    match removeAll (·.farID) fars r.removeFars with
    | none => rej
    | some (fars2, delF) =>
    match removeAll (·.qerID) qers r.removeQers with
    | none => rej
    | some (qers2, delQ) => k ⟨pdrs2, fars2, qers2, delP, delF, delQ⟩ := by
  unfold removeMod
  cases removeAll (·.pdrID) pdrs r.removePdrs with
  | none => rfl
  | some v =>
    dsimp only
    cases removeAll (·.farID) fars r.removeFars with
    | none => rfl
    | some v =>
      dsimp only
      cases removeAll (·.qerID) qers r.removeQers <;> rfl

def afterMod (r : ModReq) (s0 : Session) (pdrs : List Pdr) (fars : List Far) (qers : List Qer) : Session :=
  { s0 with rseid := cpSeidAfter r s0, pdrs := pdrs, fars := fars, qers := qers }

/-- refused at a Remove IE, the Create / Update IEs are programmed (and their markers sent) but nothing is stored -/
theorem modify_eq (cfg : Cfg) {w : World} {a : Nat} {r : ModReq} {s0 : Session}
    (h : (w.conn a).sessions.find? (·.lseid = r.seid) = some s0) :
    modify cfg w a r =
      match parseMod cfg (w.conn a).apps w.pool r with
      | (none, pool) => { world := { w with pool := pool }, reply := { cause := causeRejected, seid := cpSeidAfter r s0 } }
      | (some p, pool) =>
        let u := applyMod cfg r s0 p
        let t := sendAdd cfg w.tables u.addP u.addF u.addQ
        match removeMod r u.pdrs u.fars u.qers with
        | none => { world := { w with pool := pool, tables := t },
                    reply := { cause := causeRejected, seid := cpSeidAfter r s0 }, markers := u.markers }
        | some x =>
          { world := { conns := putSession w a r.seid (afterMod r s0 x.pdrs x.fars x.qers), pool := pool,
                       teid := freeAll x.delP w.teid, tables := sendDel cfg t x.delP x.delF x.delQ },
            reply := { cause := causeAccepted, seid := cpSeidAfter r s0 }, markers := u.markers } := by
  unfold modify
  -- `parseMod_match` and `removeMod_match` turn the two matches of the right-hand side into the handler's chains of early exits
  simp only [h, parseMod_match, removeMod_match, setConn_eq]
  unfold applyMod parsedQers afterMod cpSeidAfter fseidIPOf
  cases r.cpFseid <;> rfl

theorem rejected_ne : causeRejected ≠ causeAccepted := by decide

theorem modify_world (cfg : Cfg) (w : World) (a : Nat) (r : ModReq) :
    ((modify cfg w a r).reply.cause ≠ causeAccepted ∧
      ∃ pool tables, (modify cfg w a r).world = { w with pool := pool, tables := tables }) ∨
    ((modify cfg w a r).reply.cause = causeAccepted ∧
      ∃ (s0 : Session) (x : ModRemoved) (pool : Option Pool.P) (tables : Tables), (w.conn a).sessions.find? (·.lseid = r.seid) = some s0 ∧
        (modify cfg w a r).world = { conns := putSession w a r.seid (afterMod r s0 x.pdrs x.fars x.qers), pool := pool,
                                     teid := freeAll x.delP w.teid, tables := tables }) := by
  cases h : (w.conn a).sessions.find? (·.lseid = r.seid) with
  | none => rw [modify_eq_unknown cfg h]; exact Or.inl ⟨rejected_ne, _, _, rfl⟩
  | some s0 =>
    rw [modify_eq cfg h]
    split
    · exact Or.inl ⟨rejected_ne, _, _, rfl⟩
    · dsimp only; split
      · exact Or.inl ⟨rejected_ne, _, _, rfl⟩
      · next x _ => exact Or.inr ⟨rfl, s0, x, _, _, rfl, rfl⟩

theorem mod_reply_seid (cfg : Cfg) (w : World) (a : Nat) (r : ModReq) (s0 : Session)
    (h : (w.conn a).sessions.find? (·.lseid = r.seid) = some s0) :
    (modify cfg w a r).reply.seid = cpSeidAfter r s0 := by
  rw [modify_eq cfg h]
  split
  · rfl
  · dsimp only; split <;> rfl

/-- an accepted modification stores the session under its SEID with the control plane's SEID the reply was addressed to — so a
CP F-SEID change is remembered for every later response -/
theorem mod_accepted_stores_cp_seid (cfg : Cfg) (w : World) (a : Nat) (r : ModReq) (s0 : Session)
    (h : (w.conn a).sessions.find? (·.lseid = r.seid) = some s0)
    (hacc : (modify cfg w a r).reply.cause = causeAccepted) :
    ∃ s', ((modify cfg w a r).world.conn a).sessions.find? (·.lseid = r.seid) = some s' ∧ s'.rseid = cpSeidAfter r s0 ∧ s'.lseid = r.seid := by
  have hl : s0.lseid = r.seid := key_of_find? h
  rcases modify_world cfg w a r with ⟨hrej, _⟩ | ⟨_, s1, x, _, _, h1, e⟩
  · exact absurd hacc hrej
  · cases h.symm.trans h1
    rw [e, conn_eq]
    exact ⟨_, find?_putSession_self w a r.seid s0 _ h hl, rfl, hl⟩

/-- … and the next response for that session — here the Session Deletion Response — is addressed with it -/
theorem cp_seid_change_is_remembered (cfg : Cfg) (w : World) (a : Nat) (r : ModReq) (s0 : Session)
    (h : (w.conn a).sessions.find? (·.lseid = r.seid) = some s0)
    (hacc : (modify cfg w a r).reply.cause = causeAccepted) :
    (deleteSession cfg (modify cfg w a r).world a r.seid).2 = { cause := causeAccepted, seid := cpSeidAfter r s0 } := by
  obtain ⟨s', hf, hr, _⟩ := mod_accepted_stores_cp_seid cfg w a r s0 h hacc
  rw [deleteSession_eq, hf, ← hr]

/-- a Session Modification that is not answered "accepted" leaves the session store and the TEID allocator exactly as they were:
nothing of a refused request is committed (the datapath may have been written: `sendAdd` precedes the removals) -/
theorem refused_modification_commits_nothing (cfg : Cfg) (w : World) (a : Nat) (r : ModReq)
    (hrej : (modify cfg w a r).reply.cause ≠ causeAccepted) :
    (modify cfg w a r).world.conns = w.conns ∧ (modify cfg w a r).world.teid = w.teid := by
  rcases modify_world cfg w a r with ⟨_, _, _, e⟩ | ⟨hacc, _⟩
  · rw [e]; exact ⟨rfl, rfl⟩
  · exact absurd hacc hrej

theorem modify_after_parse (cfg : Cfg) {w : World} {a : Nat} {r : ModReq} {s0 : Session}
    (h : (w.conn a).sessions.find? (·.lseid = r.seid) = some s0) :
    (modify cfg w a r).world.pool = (parseMod cfg (w.conn a).apps w.pool r).2 ∧
    (modify cfg w a r).markers =
      match (parseMod cfg (w.conn a).apps w.pool r).1 with
      | none => []
      | some p => (applyMod cfg r s0 p).markers := by
  rw [modify_eq cfg h]
  split
  · next hp => rw [hp]; exact ⟨rfl, rfl⟩
  · next hp => rw [hp]; dsimp only; split <;> exact ⟨rfl, rfl⟩

theorem modify_no_marker_unparsed (cfg : Cfg) (w : World) (a : Nat) (r : ModReq)
    (hno : ∀ p pool2, parseMod cfg (w.conn a).apps w.pool r ≠ (some p, pool2)) : (modify cfg w a r).markers = [] := by
  cases hf : (w.conn a).sessions.find? (·.lseid = r.seid) with
  | none => rw [modify_eq_unknown cfg hf]
  | some s0 =>
    rw [(modify_after_parse cfg hf).2]
    split
    · rfl
    · next p hp => exact (hno p (parseMod cfg (w.conn a).apps w.pool r).2 (Prod.ext hp rfl)).elim

end Agent
