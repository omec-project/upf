import Upf.Proofs.AgentWorld
/-! QERs on the agent model (C09): soundness of `MarkSessionQer` as it is in session_qer.go (`Agent.markSessionQer`), and the uint64
rate arithmetic of `addQER` (bess.go). -/
namespace Agent

theorem mem_intersect {a b : List Nat} {x : Nat} : x ∈ intersect a b ↔ x ∈ a ∧ x ∈ b := by
  simp [intersect]

theorem common_sub : ∀ (ls : List (List Nat)) (acc r : List Nat), common acc ls = some r →
    (∀ x ∈ r, x ∈ acc) ∧ ∀ l ∈ ls, ∀ x ∈ r, x ∈ l := by
  intro ls
  induction ls with
  | nil => intro acc r h; simp [common] at h; subst h; exact ⟨fun _ h => h, fun _ h => by cases h⟩
  | cons l ls ih =>
    intro acc r h
    simp only [common] at h
    split at h
    · cases h
    · obtain ⟨h1, h2⟩ := ih _ r h
      refine ⟨fun x hx => (mem_intersect.mp (h1 x hx)).1, ?_⟩
      intro l' hl' x hx
      rcases List.mem_cons.mp hl' with rfl | hin
      · exact (mem_intersect.mp (h1 x hx)).2
      · exact h2 l' hin x hx

def Eligible (cands : List Nat) (qs : List Qer) (i : Nat) (t : Nat × Nat × Nat) : Prop :=
  ∃ k q, qs[k]? = some q ∧ t = (i + k, q.qerID, q.ulMbr) ∧ cands.contains q.qerID = true ∧ ¬ (q.ulGbr > 0 ∨ q.dlGbr > 0)

theorem Eligible.tail {cands : List Nat} {q : Qer} {qs : List Qer} {i : Nat} {t : Nat × Nat × Nat}
    (h : Eligible cands qs (i + 1) t) : Eligible cands (q :: qs) i t :=
  let ⟨k, q', hk, ht, hc⟩ := h
  ⟨k + 1, q', hk, by rw [ht, Nat.add_assoc, Nat.add_comm 1 k], hc⟩

theorem choose_spec (cands : List Nat) : ∀ (qs : List Qer) (i : Nat) (best : Option (Nat × Nat × Nat)) (t : Nat × Nat × Nat),
    choose cands qs i best = some t → best = some t ∨ Eligible cands qs i t
  | [], _, _, _, h => Or.inl h
  | q :: qs, i, best, t, h => by
    have later : ∀ b, choose cands qs (i + 1) b = some t → b = some t ∨ Eligible cands (q :: qs) i t :=
      fun b hb => (choose_spec cands qs (i + 1) b t hb).imp_right Eligible.tail
    unfold choose at h
    split at h
    · next hc =>
      -- `q` becomes the best so far: the result is `q` itself or comes later
      have head : choose cands qs (i + 1) (some (i, q.qerID, q.ulMbr)) = some t → best = some t ∨ Eligible cands (q :: qs) i t :=
        fun hb => Or.inr <| (later _ hb).elim (fun e => ⟨0, q, rfl, (Option.some.inj e).symm, hc⟩) id
      split at h
      · exact head h
      · split at h
        · exact head h
        · exact later _ h
    · exact later _ h

theorem mark_getElem? (pdrs : List Pdr) (qers : List Qer) (k : Nat) (q : Qer) (hq : qers[k]? = some q) :
    (markSessionQer pdrs qers).1[k]? = some q ∨
    ∃ last cands id m, pdrs.getLast? = some last ∧ common last.qerIDs (pdrs.map (·.qerIDs)) = some cands ∧
      choose cands qers 0 none = some (k, id, m) ∧ (markSessionQer pdrs qers).1[k]? = some { q with session := true } := by
  rcases mark_cases pdrs qers with e | ⟨last, cands, i, id, m, hlast, hc, hch, e⟩ <;> rw [e]
  · exact Or.inl hq
  · dsimp only
    rw [List.getElem?_mapIdx, hq, Option.map_some]
    by_cases hik : k = i
    · subst hik; exact Or.inr ⟨last, cands, id, m, hlast, hc, hch, by rw [if_pos rfl]⟩
    · exact Or.inl (by rw [if_neg hik])

/-- soundness of one marking call: a QER that this call marks is referenced by every PDR of the session,
and it carries no guaranteed bit rate -/
theorem mark_sound (pdrs : List Pdr) (qers : List Qer) (k : Nat) (q q' : Qer)
    (hq : qers[k]? = some q) (hq' : (markSessionQer pdrs qers).1[k]? = some q')
    (hnew : q.session = false) (hmarked : q'.session = true) :
    (∀ p ∈ pdrs, q'.qerID ∈ p.qerIDs) ∧ q'.ulGbr = 0 ∧ q'.dlGbr = 0 := by
  rcases mark_getElem? pdrs qers k q hq with e | ⟨last, cands, id, m, _, hc, hch, e⟩ <;> rw [e] at hq' <;> cases hq'
  · rw [hnew] at hmarked; cases hmarked
  · obtain e | ⟨k', qi, hqi, ht, hcand, hg⟩ := choose_spec cands qers 0 none _ hch
    · cases e
    simp only [Prod.mk.injEq, Nat.zero_add] at ht
    obtain ⟨rfl, _, _⟩ := ht
    rw [hq] at hqi; cases hqi
    refine ⟨fun p hp => ?_, by simp at hg ⊢; omega, by simp at hg ⊢; omega⟩
    exact (common_sub (pdrs.map (·.qerIDs)) last.qerIDs cands hc).2 p.qerIDs (List.mem_map.mpr ⟨p, hp, rfl⟩) q.qerID (by simpa using hcand)

/-- marking never changes anything but the level of QERs, and keeps every PDR's QER list a permutation of itself -/
theorem mark_keeps_lists (pdrs : List Pdr) (qers : List Qer) :
    ((markSessionQer pdrs qers).2.map (·.pdrID)) = pdrs.map (·.pdrID) := by
  rcases mark_cases pdrs qers with e | ⟨_, _, _, _, _, _, _, _, e⟩ <;> rw [e]
  simp [List.map_map, Function.comp_def]

theorem u64_of_lt (n : Nat) (h : n < 18446744073709551616) : u64 n = n := Nat.mod_eq_of_lt h

/-- a rate in kbit/s as bytes per second; 2^40 because the MBR and GBR IEs carry their rates in five octets -/
theorem u64_rate (n : Nat) (h : n < 2^40) : u64 (n * 1000) / 8 = n * 125 := by
  rw [u64_of_lt _ (by omega)]; omega

end Agent
