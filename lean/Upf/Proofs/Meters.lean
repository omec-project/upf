import Upf.Model.Meters
import Upf.Proofs.ListKeys
/-! Stand-alone model of the two meter pools of up4.go (`configureApplicationMeter`, `configureSessionMeter`, `resetMeters`, after the repair of the failure path): the pool discipline in isolation; C15 is proved on the full plug-in model in `Up4Meters`, no Props file imports this one. -/

namespace Meters

/-- consequences: no cell is free and held, or held twice, or free twice — in either pool -/
theorem app_exclusive (ua us : List Nat) (s : St) (h : Inv ua us s) : (s.appFree ++ heldBy .app s).Nodup :=
  h.app.nodup_iff.mpr h.ua_nd
theorem sess_exclusive (ua us : List Nat) (s : St) (h : Inv ua us s) : (s.sessFree ++ heldBy .sess s).Nodup :=
  h.sess.nodup_iff.mpr h.us_nd

theorem held_cons (k : Kind) (key : Nat) (m : Meter) (ms : List (Nat × Meter)) :
    held k ((key, m) :: ms) = (if m.kind = k then cells m else []) ++ held k ms := by
  by_cases hk : m.kind = k <;> simp [held, hk]

/-- one pool as three lists, free `f`, held `h`, all cells `U`: the block `c` leaves the free list for the held cells -/
theorem take_perm {f f' c h U : List Nat} (hc : (c ++ f').Perm f) (hU : (f ++ h).Perm U) :
    (f' ++ (c ++ h)).Perm U := by
  refine (List.perm_append_comm_assoc f' c h).trans (.trans ?_ hU)
  rw [← List.append_assoc]
  exact hc.append_right h

theorem give_perm {f c h h' U : List Nat} (hh : h.Perm (c ++ h')) (hU : (f ++ h).Perm U) :
    ((f ++ c) ++ h').Perm U := by
  rw [List.append_assoc]
  exact (hh.append_left f).symm.trans hU

/-- the second `erase` is idle for a unidirectional meter, where `b = a` -/
theorem cells_erase {f : List Nat} (hf : f.Nodup) (k : Kind) {a b : Nat} (ha : a ∈ f) (hb : b ≠ a → b ∈ f) :
    (cells ⟨k, a, b⟩ ++ (f.erase a).erase b).Perm f := by
  by_cases hne : b = a
  · subst hne
    rw [cells, if_pos rfl, List.erase_of_not_mem fun hin => (hf.mem_erase_iff.mp hin).1 rfl]
    exact (List.perm_cons_erase ha).symm
  · rw [cells, if_neg hne]
    exact ((List.perm_cons_erase ((List.mem_erase_of_ne hne).mpr (hb hne))).symm.cons a).trans
      (List.perm_cons_erase ha).symm

theorem inv_configure (ua us : List Nat) (s s' : St) (key : Nat) (k : Kind) (a b : Nat) (bidir ok : Bool)
    (h : Inv ua us s) (hs : configure s key k bidir a b ok = some s') : Inv ua us s' := by
  have fa := (List.nodup_append.mp (app_exclusive ua us s h)).1
  have fs := (List.nodup_append.mp (sess_exclusive ua us s h)).1
  have keys {m : Meter} (hkey : key ∉ s.meters.map (·.1)) : (((key, m) :: s.meters).map (·.1)).Nodup :=
    List.nodup_cons.mpr ⟨hkey, h.keys⟩
  cases k <;> cases ok <;>
    simp only [configure, Option.ite_none_right_eq_some, Option.some.injEq, if_true, Bool.false_eq_true,
      if_false] at hs <;>
    obtain ⟨hc, rfl⟩ := hs
  · exact h  -- application meter, Write failed: nothing changed
  · obtain ⟨ha, hbd, hkey⟩ := hc  -- application meter, Write served
    refine ⟨?_, ?_, h.ua_nd, h.us_nd, keys hkey⟩ <;> simp only [heldBy, held_cons]
    · refine take_perm (cells_erase fa .app ha ?_) h.app
      cases bidir
      · exact fun hn => absurd rfl hn
      · exact fun _ => (hbd rfl).1
    · exact h.sess
  · exact h  -- session meter, Write failed
  · obtain ⟨ha, hb, hne, hkey⟩ := hc
    refine ⟨?_, ?_, h.ua_nd, h.us_nd, keys hkey⟩ <;> simp only [heldBy, held_cons]
    · exact h.app
    · exact take_perm (cells_erase fs .sess ha fun _ => hb) h.sess

theorem inv_configure_sess (ua us : List Nat) (s s' : St) (key a b : Nat) (ok : Bool) (h : Inv ua us s)
    (hs : configure s key .sess true a b ok = some s') : Inv ua us s' :=
  inv_configure ua us s s' key .sess a b true ok h hs

theorem inv_configure_app (ua us : List Nat) (s s' : St) (key a b : Nat) (bidir ok : Bool) (h : Inv ua us s)
    (hs : configure s key .app bidir a b ok = some s') : Inv ua us s' :=
  inv_configure ua us s s' key .app a b bidir ok h hs

theorem held_remove (k : Kind) : ∀ (ms : List (Nat × Meter)) (key : Nat) (m : Meter), (ms.map (·.1)).Nodup →
    ms.find? (fun e => e.1 == key) = some (key, m) →
    (held k ms).Perm ((if m.kind = k then cells m else []) ++ held k (ms.filter (fun e => e.1 != key))) := by
  intro ms key m hnd hf
  have := ((ListKeys.filter_perm ms key m hnd (List.mem_of_find?_eq_some hf)).symm.filter
    (fun e => e.2.kind == k)).flatMap_right (fun e => cells e.2)
  change (held k ms).Perm (held k ((key, m) :: _)) at this
  rwa [held_cons] at this

theorem inv_reset (ua us : List Nat) (s : St) (key : Nat) (h : Inv ua us s) : Inv ua us (reset s key) := by
  unfold reset
  cases hf : s.meters.find? (fun e => e.1 == key) with
  | none => exact h
  | some p =>
    obtain ⟨k0, m⟩ := p
    obtain rfl : k0 = key := by simpa using List.find?_some hf
    have hkeys : ((s.meters.filter (fun e => e.1 != k0)).map (·.1)).Nodup :=
      (List.Sublist.map _ List.filter_sublist).nodup h.keys
    have r (k : Kind) := held_remove k s.meters k0 m h.keys hf
    simp only
    cases hkind : m.kind <;> simp only [hkind] at r ⊢
    · exact ⟨give_perm (r .app) h.app, ((r .sess).append_left _).symm.trans h.sess, h.ua_nd, h.us_nd, hkeys⟩
    · exact ⟨((r .app).append_left _).symm.trans h.app, give_perm (r .sess) h.sess, h.ua_nd, h.us_nd, hkeys⟩

#print axioms inv_configure_app
#print axioms inv_reset

end Meters
