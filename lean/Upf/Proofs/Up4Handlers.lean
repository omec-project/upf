import Upf.Model.AgentUp4
import Upf.Proofs.AgentWorld
/-!
The session handlers on UP4 (`Agent4.establish`, `Agent4.deleteSession`) as equations for what they return, in terms of what
`sendCreate` / `sendDelete` of up4.go return: the counterpart of `Agent.establish_cases` / `Agent.deleteSession_eq` on BESS.
-/
namespace Agent4
open Agent Up4

/-- accepted: `sendCreate` was handed the session's PDRs both as "all" and as "updated", and the session is stored with the PDRs
`sendCreate` returned (they carry the counter cells) -/
theorem establish_cases (cfg : Cfg) (cfg4 : Cfg4) (x : World4) (a lseid : Nat) (r : EstReq) :
    (establish cfg cfg4 x a lseid r).2.upSeid = none ∨
    ∃ pdrs pool g fars addQ c4 pdrs3,
      sendCreate cfg4 x.c ⟨(estSession lseid r pdrs fars).pdrs, fars, (estSession lseid r pdrs fars).qers⟩
        ⟨(estSession lseid r pdrs fars).pdrs, fars, addQ⟩ = (c4, pdrs3, true) ∧
      establish cfg cfg4 x a lseid r =
        ({ w := ({ x.w with pool := pool, teid := g }).setConn a { x.w.conn a with
             sessions := (x.w.conn a).sessions ++ [{ estSession lseid r pdrs fars with pdrs := pdrs3 }] }, c := c4 },
         { cause := causeAccepted, seid := r.cpSeid, upSeid := some lseid, created := createdOf pdrs }) := by
  unfold establish
  dsimp only
  split
  · exact .inl rfl
  · cases estPdrs cfg lseid r.cpIP (x.w.conn a).apps r.pdrs x.w.pool x.w.teid [] with
    | error e => exact .inl rfl
    | ok v =>
      dsimp only
      cases mapFars cfg lseid r.cpIP false r.fars with
      | error e => cases e; exact .inl rfl
      | ok fars =>
        dsimp only
        generalize hres : sendCreate cfg4 x.c _ _ = res
        obtain ⟨c4, pdrs3, ok⟩ := res
        cases ok
        · exact .inl rfl
        · exact .inr ⟨_, _, _, fars, _, c4, pdrs3, hres, rfl⟩

theorem deleteSession_eq (cfg4 : Cfg4) (x : World4) (a seid : Nat) (s : Session)
    (hs : (x.w.conn a).sessions.find? (·.lseid = seid) = some s) :
    deleteSession cfg4 x a seid =
      if (sendDelete cfg4 x.c (rulesOf s)).2 then
        ({ w := World.setConn
              { x.w with pool := (releaseRes x.w.pool x.w.teid s.lseid s.pdrs).1, teid := (releaseRes x.w.pool x.w.teid s.lseid s.pdrs).2 }
              a { x.w.conn a with sessions := (x.w.conn a).sessions.filter (·.lseid ≠ seid) },
           c := (sendDelete cfg4 x.c (rulesOf s)).1 }, { cause := causeAccepted, seid := s.rseid })
      else ({ x with c := (sendDelete cfg4 x.c (rulesOf s)).1 }, { cause := causeRejected, seid := 0 }) := by
  unfold deleteSession
  dsimp only
  rw [hs]
  dsimp only
  cases (sendDelete cfg4 x.c (rulesOf s)).2 <;> rfl

end Agent4
