import Upf.Model.Qos
/-! Stand-alone prototype for C09: rates and gate of one direction of `bess.addQER` (pfcpiface/bess.go); C09 itself is proved on `Agent.qerHalf` in `Props/C09` (arithmetic in `AgentQer`), no Props file imports this one. -/

namespace Qos

theorem scaled (r : U64) (h : r.toNat < 2^40) : ((r * 1000#64) / 8#64).toNat = r.toNat * 125 := by
  rw [BitVec.toNat_udiv, BitVec.toNat_mul, BitVec.toNat_ofNat, BitVec.toNat_ofNat,
    Nat.mod_eq_of_lt (a := 1000) (by decide), Nat.mod_eq_of_lt (a := 8) (by decide), Nat.mod_eq_of_lt (by omega)]
  exact Nat.mul_div_assoc _ ⟨125, rfl⟩

theorem maxU_toNat (x y : U64) : (maxU x y).toNat = max x.toNat y.toNat := by
  unfold maxU
  split
  next h => exact (Nat.max_eq_right (Nat.le_of_lt (BitVec.lt_def.mp h))).symm
  next h => exact (Nat.max_eq_left (BitVec.le_def.mp (BitVec.not_lt.mp h))).symm

theorem cir_exact (gbr : U64) (h : gbr.toNat < 2^40) : (cir gbr).toNat = max (gbr.toNat * 125) 1 := by
  rw [cir, maxU_toNat, scaled gbr h]; rfl

/-- the peak rate programmed is exactly MBR × 125 bytes/s whenever GBR ≤ MBR and the QER is metered -/
theorem pir_exact (mbr gbr : U64) (hm : mbr.toNat < 2^40) (hle : gbr.toNat ≤ mbr.toNat)
    (hne : mbr ≠ 0#64 ∨ gbr ≠ 0#64) : (pir mbr gbr).toNat = mbr.toNat * 125 := by
  have hpos : 0 < mbr.toNat := Nat.pos_of_ne_zero fun e => hne.elim
    (fun h => h (BitVec.eq_of_toNat_eq e)) (fun h => h (BitVec.eq_of_toNat_eq (Nat.le_zero.mp (e ▸ hle))))
  rw [pir, maxU_toNat, scaled mbr hm, cir_exact gbr (Nat.lt_of_le_of_lt hle hm)]
  -- the committed rate is at most the peak: GBR ≤ MBR, and 1 ≤ MBR × 125
  exact Nat.max_eq_left (Nat.max_le.mpr ⟨Nat.mul_le_mul_right 125 hle, Nat.mul_pos hpos (by decide)⟩)

theorem closed_drops (status : BitVec 8) (mbr gbr : U64) (h : status ≠ 0#8) : gate status mbr gbr = .drop :=
  if_pos h

theorem unmetered_iff (mbr gbr : U64) : gate 0#8 mbr gbr = .unmeter ↔ (mbr = 0#64 ∧ gbr = 0#64) := by
  unfold gate
  by_cases h1 : mbr = 0#64 <;> by_cases h2 : gbr = 0#64 <;> simp [h1, h2]

#print axioms pir_exact

end Qos
