import Upf.Model.Lockset
/-! C11: threads, mutexes and guarded accesses in the abstract; a thread inside an access holds its guard, so accesses under one mutex never overlap. -/

namespace Lockset

/-- the owner of `l` may change while no thread is inside an access guarded by `l` -/
theorem Inv.set_owner {guard : Loc → Lock} {s : St} (h : Inv guard s) (l : Lock) (v : Option Tid)
    (hl : ∀ t x, s.inside t = some x → guard x ≠ l) :
    Inv guard { s with owner := fun k => if k = l then v else s.owner k } :=
  fun t x hx => (if_neg (hl t x hx)).trans (h t x hx)

/-- thread `t` may leave, or enter a location whose guard it holds -/
theorem Inv.set_inside {guard : Loc → Lock} {s : St} (h : Inv guard s) (t : Tid) (v : Option Loc)
    (hv : ∀ x, v = some x → s.owner (guard x) = some t) :
    Inv guard { s with inside := fun u => if u = t then v else s.inside u } :=
  fun u y hu =>
    if e : u = t then e ▸ hv y ((if_pos e).symm.trans hu) else h u y ((if_neg e).symm.trans hu)

theorem inv_step (guard : Loc → Lock) (s s' : St) (a : Act) (h : Inv guard s) (hs : step guard s a = some s') :
    Inv guard s' := by
  cases a <;> simp only [step, Option.ite_none_right_eq_some, Option.some.injEq] at hs
  case acquire t l =>
    obtain ⟨hfree, rfl⟩ := hs
    -- a guard that is held is not the free lock `l`
    exact h.set_owner l _ fun u x hx e => Option.some_ne_none u ((e ▸ h u x hx).symm.trans hfree)
  case release t l =>
    obtain ⟨⟨hown, hout⟩, rfl⟩ := hs
    -- were the guard `l`, its owner `t` would be inside an access
    refine h.set_owner l _ fun u x hx e => ?_
    obtain rfl : u = t := Option.some.inj ((h u x hx).symm.trans (e ▸ hown))
    exact Option.some_ne_none x (hx.symm.trans hout)
  case enter t x =>
    obtain ⟨⟨hown, _⟩, rfl⟩ := hs
    exact h.set_inside t _ fun y e => Option.some.inj e ▸ hown
  case leave t =>
    subst hs
    exact h.set_inside t none nofun

/-- in every reachable state two different threads are never inside accesses to locations
    guarded by the same mutex — in particular never inside the same location: no data race -/
theorem race_free (guard : Loc → Lock) : ∀ (acts : List Act) (s s' : St), Inv guard s →
    run guard s acts = some s' →
    ∀ t u x y, t ≠ u → s'.inside t = some x → s'.inside u = some y → guard x ≠ guard y := by
  intro acts
  induction acts with
  | nil =>
    intro s s' h hr t u x y htu hx hy e
    cases hr
    exact htu (Option.some.inj ((h t x hx).symm.trans (e ▸ h u y hy)))
  | cons a as ih =>
    intro s s' h hr
    rw [run] at hr
    split at hr
    · cases hr
    next s1 h1 => exact ih s1 s' (inv_step guard s s1 a h h1) hr

#print axioms race_free

end Lockset
