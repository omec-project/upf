import Upf.Model.Mark
/-! Stand-alone prototype for C09: one call of `MarkSessionQer` (pfcpiface/session_qer.go, repaired: no PDR and no candidate mark nothing) on lists of QER ids; C09 itself is proved on `Agent.markSessionQer` in `AgentQer`, no Props file imports this one. -/

namespace Mark

theorem mem_intersect {a b : List Nat} {x : Nat} : x ∈ intersect a b ↔ x ∈ a ∧ x ∈ b := by
  simp [intersect]

theorem common_sub : ∀ (ls : List (List Nat)) (acc r : List Nat), common acc ls = some r →
    (∀ x ∈ r, x ∈ acc) ∧ ∀ l ∈ ls, ∀ x ∈ r, x ∈ l := by
  intro ls
  induction ls with
  | nil => intro acc r h; cases h; exact ⟨fun _ h => h, fun _ h => nomatch h⟩
  | cons l ls ih =>
    intro acc r h
    simp only [common] at h
    split at h
    · cases h
    · obtain ⟨h1, h2⟩ := ih _ r h
      refine ⟨fun x hx => (mem_intersect.mp (h1 x hx)).1, fun l' hl' x hx => ?_⟩
      rcases List.mem_cons.mp hl' with rfl | hin
      · exact (mem_intersect.mp (h1 x hx)).2
      · exact h2 l' hin x hx

theorem choose_spec (cands : List Nat) : ∀ (qs : List Qer) (i : Nat) (best : Option (Nat × Nat)) (j m : Nat),
    choose cands qs i best = some (j, m) →
    best = some (j, m) ∨ ∃ k q, j = i + k ∧ qs[k]? = some q ∧ cands.contains q.id = true ∧ q.gbr = false := by
  intro qs
  induction qs with
  | nil => intro i best j m h; exact .inl h
  | cons q qs ih =>
    intro i best j m h
    -- every branch continues with the old best or, for a candidate, with `q` itself
    have key (b) (hb : b = best ∨ b = some (i, q.ulMbr) ∧ cands.contains q.id = true ∧ ¬ q.gbr = true)
        (h : choose cands qs (i+1) b = some (j, m)) :
        best = some (j, m) ∨ ∃ k q', j = i + k ∧ (q :: qs)[k]? = some q' ∧ cands.contains q'.id = true ∧ q'.gbr = false := by
      rcases ih (i+1) b j m h with e | ⟨k, q', rfl, hk, hc⟩
      · rcases hb with rfl | ⟨rfl, hc⟩
        · exact .inl e
        · cases e
          exact .inr ⟨0, q, rfl, rfl, hc.1, Bool.eq_false_iff.mpr hc.2⟩
      · exact .inr ⟨k+1, q', Nat.add_right_comm i 1 k, hk, hc⟩
    simp only [choose] at h
    split at h
    · split at h
      · exact key _ (.inr ⟨rfl, ‹_›⟩) h
      · split at h
        · exact key _ (.inr ⟨rfl, ‹_›⟩) h
        · exact key _ (.inl rfl) h
    · exact key _ (.inl rfl) h

/-- soundness of one marking call: a QER that this call marks is referenced by every PDR -/
theorem mark_sound (pdrLists : List (List Nat)) (qers : List Qer) (k : Nat) (q q' : Qer)
    (hq : qers[k]? = some q) (hq' : (mark pdrLists qers)[k]? = some q')
    (hnew : q.session = false) (hmarked : q'.session = true) :
    ∀ l ∈ pdrLists, q'.id ∈ l := by
  -- had this call left position `k` alone, `q'` would be `q`, which is not marked
  have same (h : qers[k]? = some q') : False := by
    rw [hq] at h; cases h; rw [hnew] at hmarked; cases hmarked
  unfold mark at hq'
  split at hq'
  · exact (same hq').elim
  next last _ =>
    split at hq'
    · exact (same hq').elim
    split at hq'
    · exact (same hq').elim
    next cands hc =>
      split at hq'
      · exact (same hq').elim
      next i m hch =>
        obtain e | ⟨i, qi, rfl, hqi, hcand, _⟩ := choose_spec cands qers 0 none i m hch
        · cases e
        rw [Nat.zero_add] at hq'
        by_cases hik : i = k
        · subst hik
          rw [List.getElem?_set_self (List.getElem?_eq_some_iff.mp hqi).1, hqi] at hq'
          cases hq'
          exact fun l hl => (common_sub pdrLists last cands hc).2 l hl qi.id (List.contains_iff_mem.mp hcand)
        · rw [List.getElem?_set_ne hik] at hq'
          exact (same hq').elim

#print axioms mark_sound

end Mark
