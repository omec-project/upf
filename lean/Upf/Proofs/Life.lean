import Upf.Model.Life
/-! Teardown safety (C10).  `step` is a function with some twenty branches; the proofs do not walk it twice but go through
`Step`, the same steps as a relation with five constructors that keep only what `Inv` and the deletion ledger need
(`step_sound`).  `inv_step` and `ledger_const` are then by cases on `Step`. -/

namespace Life

theorem cinv_default : CInv ({} : Conn) := by
  constructor <;> simp

theorem inv_init : Inv init := ⟨rfl, fun _ => cinv_default, fun h => by cases h⟩

theorem bool_false_of_not {b : Bool} (h : ¬ b = true) : b = false := by cases b <;> simp_all

theorem exec_single {l : List Nat} (h : l.length ≤ 1) {i pc : Nat} (hi : l[i]? = some pc) :
    l = [pc] ∧ i = 0 := by
  match l, i, h with
  | [x], 0, _ => simpa using hi

theorem CInv.running {c : Conn} (h : CInv c) {i pc : Nat} (hpc : c.execs[i]? = some pc) :
    c.execs = [pc] ∧ i = 0 ∧ c.started = true ∧ c.exists_ = true := by
  have hl := exec_single h.one hpc
  have hst := (Bool.eq_false_or_eq_true _).resolve_right fun e => by simpa [hl.1] using (h.fresh e).1
  exact ⟨hl.1, hl.2, hst, (Bool.eq_false_or_eq_true _).resolve_right fun e => by simpa [hst] using h.notEx e⟩

theorem CInv.of_running {c : Conn} {pc : Nat} (hl : c.execs = [pc]) (hst : c.started = true) (hex : c.exists_ = true)
    (h1 : pc = 1 → c.shutClosed = false) (h4 : pc ≤ 4 → c.reported = false) : CInv c :=
  ⟨by simp [hl], fun h => by simp [hst] at h, fun h => by simp [hex] at h,
   fun p hp e => h1 (by simp_all), fun p hp e => h4 (by simp_all)⟩

theorem upd_forall {P : Conn → Prop} {f : Nat → Conn} {a : Nat} {c : Conn} (hc : P c) (hf : ∀ b, P (f b)) (b : Nat) :
    P (upd f a c b) := by
  unfold upd
  split
  · exact hc
  · exact hf b

/-- `n` as in `Step.adv`; for every other change `n` is `s.doneBuf` and the state is `{ s with conns := … }` by structure eta -/
theorem inv_upd {s : St} (hi : Inv s) (a : Nat) {c' : Conn} (n : Nat) (hc' : CInv c')
    (hrep : s.doneClosed = true → c'.exists_ = true → c'.reported = true) :
    Inv { s with conns := upd s.conns a c', doneBuf := n } :=
  ⟨hi.ok, upd_forall hc' hi.conns, fun hd =>
    ⟨upd_forall (P := fun c => c.exists_ = true → c.reported = true) (hrep hd) (hi.closed hd).1, (hi.closed hd).2⟩⟩

/-- one step of a running `Shutdown` on its association `c` (the execution moves from `pc` to `pc'`): nothing is lost from the
sessions, it never goes back to pc 1, and the report is sent exactly at pc 4 -/
def Adv (c : Conn) (pc : Nat) (c' : Conn) (pc' : Nat) : Prop :=
  c'.exists_ = c.exists_ ∧ c'.started = c.started ∧
  c'.deleted ++ c'.sessions = c.deleted ++ c.sessions ∧ pc' ≠ 1 ∧
  (pc' ≤ 4 → pc ≤ 4 ∧ c'.reported = c.reported) ∧ (c.reported = true → c'.reported = true)

/-- `panic`: one of Go's two panics, close of the closed `shutdown` channel at pc 1 or send on the closed `pConnDone` at pc 4;
`node`: a step that leaves the associations alone -/
inductive Step (f : Facts) (s : St) : St → Prop
  | panic {a i pc : Nat} : (s.conns a).execs[i]? = some pc →
      (pc = 1 ∧ (s.conns a).shutClosed = true ∨ pc = 4 ∧ s.doneClosed = true) → Step f s { s with panicked := true }
  | new (a : Nat) (sess : List Nat) : s.listenerClosed = false → (s.conns a).exists_ = false →
      Step f s { s with conns := upd s.conns a { exists_ := true, sessions := sess } }
  | start (a : Nat) : (s.conns a).exists_ = true → ¬ (f.guarded = true ∧ (s.conns a).started = true) →
      Step f s { s with
        conns := upd s.conns a { (s.conns a) with started := true, execs := (s.conns a).execs ++ [1] } }
  -- `n`: only the send at pc 4 changes `doneBuf`; otherwise `n` is `s.doneBuf`
  | adv {a i pc pc' : Nat} {c' : Conn} (n : Nat) : (s.conns a).execs[i]? = some pc →
      c'.execs = (s.conns a).execs.set i pc' → Adv (s.conns a) pc c' pc' →
      Step f s { s with conns := upd s.conns a c', doneBuf := n }
  | node {s' : St} : s'.conns = s.conns → s'.panicked = s.panicked →
      (s.listenerClosed = true → s'.listenerClosed = true) →
      (s'.doneClosed = true → s.doneClosed = true ∨ s.listenerClosed = true ∧ (f.waits = true → allReported s)) →
      Step f s s'

theorem step_sound {f : Facts} {s s' : St} {act : Act} (hs : step f s act = some s') : Step f s s' := by
  revert hs
  fun_cases step f s act
  -- the branches of `step` in its order; those that are not enabled go at once
  all_goals intro hs; cases hs
  case case2 a sess hn =>  -- newConn
    exact .new a sess (bool_false_of_not fun e => hn (Or.inl e)) (bool_false_of_not fun e => hn (Or.inr e))
  case case4 | case18 | case19 | case25 =>  -- trigger after the first, nRecv, stop, nExit
    exact .node rfl rfl id Or.inl
  case case5 a _ hex hns =>  -- the first trigger
    exact .start a (Decidable.not_not.mp hex) hns
  case case7 h hpc =>  -- sd at pc 1, `shutdown` already closed
    exact .panic hpc (Or.inl ⟨rfl, h⟩)
  case case12 h hpc =>  -- sd at pc 4, `pConnDone` closed
    exact .panic hpc (Or.inr ⟨rfl, h⟩)
  case case8 hpc | case9 hpc | case10 hpc =>  -- sd at pc 1, at pc 2, at pc 3 with no session left
    exact .adv _ hpc rfl ⟨rfl, rfl, rfl, by decide, fun _ => ⟨by decide, rfl⟩, id⟩
  case case11 hx hpc =>  -- sd at pc 3, one session deleted
    exact .adv _ hpc rfl
      ⟨rfl, rfl, (List.append_assoc ..).trans (congrArg _ hx.symm), by decide, fun _ => ⟨by decide, rfl⟩, id⟩
  case case14 hpc =>  -- sd at pc 4, the report is sent
    exact .adv _ hpc rfl ⟨rfl, rfl, rfl, by decide, fun h => absurd h (by decide), fun _ => rfl⟩
  case case15 hpc =>  -- sd at pc 5
    exact .adv _ hpc rfl ⟨rfl, rfl, rfl, by decide, fun h => absurd h (by decide), id⟩
  case case20 =>  -- nCloseListener
    exact .node rfl rfl (fun _ => rfl) Or.inl
  case case24 h1 h2 =>  -- nCloseDone
    exact .node rfl rfl id fun _ => Or.inr ⟨Decidable.by_contra fun hn => h1 (Or.inl hn),
      fun hw => Classical.byContradiction fun hn => h2 ⟨hw, hn⟩⟩

theorem inv_step (f : Facts) (hg : f.guarded = true) (hw : f.waits = true)
    (s s' : St) (act : Act) (hi : Inv s) (hs : step f s act = some s') : Inv s' := by
  have hcl := hi.closed
  cases step_sound hs with
  | @panic a i pc hpc hcause =>
    obtain ⟨hl, rfl, -, hex⟩ := (hi.conns a).running hpc
    rcases hcause with ⟨rfl, hsc⟩ | ⟨rfl, hdc⟩
    · -- no double close: at pc 1 the channel is still open
      exact Bool.noConfusion (((hi.conns a).pc1 1 (by simp [hl]) rfl).symm.trans hsc)
    · -- no send on the closed channel: it is closed only after this association has reported
      exact Bool.noConfusion (((hi.conns a).pc4 4 (by simp [hl]) (by decide)).symm.trans ((hcl hdc).1 a hex))
  | new a sess hl hne =>
    -- the listener is open, so `pConnDone` is not closed yet
    exact inv_upd hi a _ (by constructor <;> simp) fun hd => Bool.noConfusion (hl.symm.trans (hcl hd).2)
  | start a hex hns =>
    have hst := bool_false_of_not fun h => hns ⟨hg, h⟩
    obtain ⟨hempty, hsc, hrep⟩ := (hi.conns a).fresh hst
    exact inv_upd hi a _ (CInv.of_running (pc := 1) (by simp [hempty]) rfl hex (fun _ => hsc) fun _ => hrep)
      fun hd _ => (hcl hd).1 a hex
  | @adv a i pc pc' c' n hpc hexecs hadv =>
    obtain ⟨hl, rfl, hst, hex⟩ := (hi.conns a).running hpc
    obtain ⟨he, hs', -, h1, h4, hr⟩ := hadv
    exact inv_upd hi a n
      (CInv.of_running (pc := pc') (by rw [hexecs, hl]; rfl) (hs'.trans hst) (he.trans hex) (fun e => absurd e h1)
        fun h => (h4 h).2.trans ((hi.conns a).pc4 pc (by simp [hl]) (h4 h).1))
      fun hd _ => hr ((hcl hd).1 a hex)
  | @node s' hc hp hl hd =>
    have har : allReported s → allReported s' := fun har a => by rw [hc]; exact har a
    refine ⟨hp.trans hi.ok, fun a => hc ▸ hi.conns a, fun h => ?_⟩
    rcases hd h with h0 | ⟨hlc, hall⟩
    · exact ⟨har (hcl h0).1, hl (hcl h0).2⟩
    · exact ⟨har (hall hw), hl hlc⟩

/-- no interleaving of any number of associations ever panics, if teardown is guarded and the node waits -/
theorem safe (f : Facts) (hg : f.guarded = true) (hw : f.waits = true) :
    ∀ (acts : List Act) (s s' : St), Inv s → run f s acts = some s' → s'.panicked = false := by
  intro acts
  induction acts with
  | nil => intro s s' hi hr; simp [run] at hr; subst hr; exact hi.ok
  | cons a as ih =>
    intro s s' hi hr
    simp only [run] at hr
    split at hr
    · cases hr
    · rename_i s1 h1
      exact ih s1 s' (inv_step f hg hw s s1 a hi h1) hr

#print axioms safe

/-! What has been deleted plus what is still to delete is constant for an existing association: every session of
an ending association is issued to the datapath for deletion exactly once (the list is consumed, never refilled). -/

def ledger (c : Conn) : List Nat := c.deleted ++ c.sessions

theorem ledger_upd_other (f : Nat → Conn) (a b : Nat) (c : Conn) (h : a ≠ b) : ledger (upd f b c a) = ledger (f a) := by
  rw [upd_other _ _ _ _ h]

theorem ledger_upd (f : Nat → Conn) (a b : Nat) (c : Conn) (h : ledger c = ledger (f b)) :
    ledger (upd f b c a) = ledger (f a) := by
  by_cases hab : a = b
  · rw [hab, upd_same, h]
  · exact ledger_upd_other f a b c hab

theorem ledger_const (f : Facts) (s s' : St) (act : Act) (a : Nat) (hs : step f s act = some s')
    (hex : (s.conns a).exists_ = true) : ledger (s'.conns a) = ledger (s.conns a) := by
  cases step_sound hs with
  | panic => rfl
  | new b sess _ hne => exact ledger_upd_other _ a b _ fun e => Bool.noConfusion (hne.symm.trans (e ▸ hex))
  | start b => exact ledger_upd _ a b _ rfl
  | adv n _ _ hadv => exact ledger_upd _ a _ _ hadv.2.2.1
  | node hc => rw [hc]

end Life
