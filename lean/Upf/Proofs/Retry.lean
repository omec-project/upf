import Upf.Model.Notif
/-! The retransmission loop of `sendPFCPRequestMessage` (C12): the bounds on `Retry.go` by induction along its own
recursion, and the loop at the code's width (`goU8` on `BitVec 8`, the `uint8` retry budget) shown equal to it. -/

namespace Retry

theorem go_bound (seq : Nat) (es : List Ev) (r tx : Nat) : (go seq r tx es).1 ≤ tx + r := by
  fun_induction go seq r tx es
  case case2 ih => omega  -- a timeout with retries left
  case case5 ih => exact ih  -- a response to another request
  all_goals exact Nat.le_add_right _ _  -- the branches that return at once

theorem tx_bound (seq N : Nat) (es : List Ev) : (send seq N es).1 ≤ 1 + N := by
  have := go_bound seq es N 1; unfold send; omega

/-- declared dead only after every one of the 1+N transmissions timed out -/
theorem dead_all_timeouts (seq : Nat) : ∀ (es : List Ev) (r tx : Nat), (go seq r tx es).2 = .dead →
    (go seq r tx es).1 = tx + r ∧ (es.filter (fun e => match e with | .timeout => true | _ => false)).length ≥ r + 1 := by
  intro es r tx
  fun_induction go seq r tx es
  case case2 ih =>  -- a timeout with retries left
    intro h; have := ih h; simp only [List.filter_cons_of_pos, List.length_cons]; omega
  case case3 =>  -- a timeout with none left
    intro _; simp only [List.filter_cons_of_pos, List.length_cons]; omega
  case case5 ih =>  -- a response to another request
    intro h; simpa using ih h
  all_goals exact fun h => nomatch h  -- the other branches do not return `dead`

#print axioms dead_all_timeouts

theorem goU8_eq (seq : Nat) (es : List Ev) (r : BitVec 8) (tx : Nat) : goU8 seq r tx es = go seq r.toNat tx es := by
  fun_induction goU8 seq r tx es
  case case1 | case6 => rfl  -- end of input, shutdown
  case case2 r _ _ h ih =>
    -- a timeout with retries left: `r - 1` does not wrap around
    have h' : 0 < r.toNat := BitVec.lt_def.mp h
    rw [go, if_pos h', ih, BitVec.toNat_sub_of_le (BitVec.le_def.mpr (show (1#8).toNat ≤ r.toNat from h'))]; rfl
  case case3 r _ _ h =>  -- a timeout with none left
    rw [go, if_neg fun (h' : 0 < r.toNat) => h (BitVec.lt_def.mpr h')]
  case case4 => simp [go]  -- the awaited response
  case case5 h ih => simp [go, h, ih]  -- a response to another request

theorem sendU8_eq (seq : Nat) (N : BitVec 8) (es : List Ev) : sendU8 seq N es = send seq N.toNat es := goU8_eq seq es N 1

theorem tx_bound_u8 (seq : Nat) (N : BitVec 8) (es : List Ev) : (sendU8 seq N es).1 ≤ 1 + N.toNat ∧ (sendU8 seq N es).1 ≤ 256 := by
  rw [sendU8_eq]
  have := tx_bound seq N.toNat es
  have := N.isLt
  omega

end Retry

