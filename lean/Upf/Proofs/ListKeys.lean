/-! Lists of pairs whose first components (keys) are pairwise different: the session → address map of `IPPool`, the meter map of the
stand-alone `Meters` model, the installed routes of `Route` under their table keys. -/
namespace ListKeys

theorem inj_of_nodup_map {α β} {f : α → β} {l : List α} (h : (l.map f).Nodup) {x y : α}
    (hx : x ∈ l) (hy : y ∈ l) (e : f x = f y) : x = y := by
  have hp : l.Pairwise (fun x y => f x ≠ f y) := List.pairwise_map.mp h
  exact List.Pairwise.forall_of_forall_of_flip (R := fun x y => f x = f y → x = y) (fun _ _ _ => rfl)
    (hp.imp fun n e => absurd e n) (hp.imp fun n e => absurd e.symm n) hx hy e

theorem filter_perm {κ β} [DecidableEq κ] [DecidableEq β] (l : List (κ × β)) (s : κ) (a : β)
    (hk : (l.map (·.1)).Nodup) (hm : (s, a) ∈ l) : ((s, a) :: l.filter (·.1 != s)).Perm l := by
  have hnd : l.Nodup := (List.pairwise_map.mp hk).imp fun h e => h (congrArg (·.1) e)
  have e : l.filter (·.1 != s) = l.erase (s, a) := by
    rw [hnd.erase_eq_filter]
    refine List.filter_congr fun x hx => Bool.eq_iff_iff.mpr ?_
    rw [bne_iff_ne, bne_iff_ne]
    exact ⟨fun h e => h (e ▸ rfl), fun h e => h (inj_of_nodup_map hk hx hm e)⟩
  rw [e]
  exact (List.perm_cons_erase hm).symm

end ListKeys
